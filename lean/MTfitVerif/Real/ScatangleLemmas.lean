import MTfitVerif.Model.Scatangle
import MTfitVerif.Real.Inst
/-
  Scatangle files.  The reader is a fold of `step`, computed station line by station line and block by
  block (`foldl_file`).  `bin_eq_binAux` brings `bin` to the fuelled `binAux`, and every fact about
  binning is then an induction over the cases of `binAux`.
-/
namespace MTfitVerif.Scatangle

/-! ### parsing -/

theorem foldl_stations (r : Record ℝ) (s : PState ℝ) :
    (r.map fun a : Nat × ℝ × ℝ => Line.station a.1 a.2.1 a.2.2).foldl step s = { s with cur := s.cur ++ r } := by
  induction r generalizing s with
  | nil => simp
  | cons a r ih => simp [step, ih]

theorem foldl_stations_blank (s : PState ℝ) (hs : s.cur = []) (r : Record ℝ) (hr : r ≠ [])
    (hw : s.mult ≠ 0) :
    ((r.map fun a : Nat × ℝ × ℝ => Line.station a.1 a.2.1 a.2.2) ++ [Line.blank]).foldl step s
      = { cur := [], mult := s.mult, out := s.out ++ [(r, s.mult)] } := by
  rw [List.foldl_append, foldl_stations]
  simp [step, hs, hr, hw]

theorem foldl_block (s : PState ℝ) (hs : s.cur = []) (r : Record ℝ) (w : ℝ) (hr : r ≠ [])
    (hw : w ≠ 0) :
    (Line.weight w :: (r.map fun a : Nat × ℝ × ℝ => Line.station a.1 a.2.1 a.2.2) ++ [Line.blank]).foldl step s
      = { cur := [], mult := w, out := s.out ++ [(r, w)] } :=
  foldl_stations_blank { s with mult := w } hs r hr hw

theorem foldl_file (recs : List (Record ℝ × ℝ)) (h : ∀ p ∈ recs, p.1 ≠ [] ∧ p.2 ≠ 0)
    (s : PState ℝ) (hs : s.cur = []) :
    ∃ m, (recs.flatMap fun p =>
            Line.weight p.2 :: (p.1.map fun a : Nat × ℝ × ℝ => Line.station a.1 a.2.1 a.2.2) ++ [Line.blank]).foldl step s
          = { cur := [], mult := m, out := s.out ++ recs } := by
  induction recs generalizing s with
  | nil =>
    refine ⟨s.mult, ?_⟩
    cases s
    simp_all
  | cons p recs ih =>
    obtain ⟨hp, h⟩ := List.forall_mem_cons.mp h
    rw [List.flatMap_cons, List.foldl_append, foldl_block s hs p.1 p.2 hp.1 hp.2]
    obtain ⟨m, hm⟩ := ih h { cur := [], mult := p.2, out := s.out ++ [(p.1, p.2)] } rfl
    refine ⟨m, ?_⟩
    rw [hm]
    simp

/-! ### binning -/

theorem binAux_zero (b : ℝ) (l : List (Record ℝ × ℝ)) : binAux b 0 l = l := by
  cases l <;> rfl

theorem binAux_nil (b : ℝ) (fuel : Nat) : binAux b fuel ([] : List (Record ℝ × ℝ)) = [] := by
  cases fuel <;> rfl

theorem binAux_succ_cons (b : ℝ) (fuel : Nat) (r : Record ℝ) (w : ℝ) (rest : List (Record ℝ × ℝ)) :
    binAux b (fuel + 1) ((r, w) :: rest)
      = (r, (rest.filter fun x => close b r x.1).foldl (fun acc x => acc + x.2) w)
          :: binAux b fuel (rest.filter fun x => !close b r x.1) := rfl

theorem bin_eq_binAux (b : ℝ) (recs : List (Record ℝ × ℝ)) :
    bin b recs = binAux b (if b = 0 then 0 else recs.length) recs := by
  unfold bin
  by_cases h : b = 0 <;> simp [h, binAux_zero]

theorem binAux_mass (b : ℝ) (fuel : Nat) (l : List (Record ℝ × ℝ)) :
    ((binAux b fuel l).map (·.2)).sum = (l.map (·.2)).sum := by
  fun_induction binAux b fuel l with
  | case1 l => rfl
  | case2 fuel h => rfl
  | case3 fuel r w rest merged others ih =>
    have h := List.sum_map_filter_add_sum_map_filter_not (fun x : Record ℝ × ℝ => close b r x.1 = true) (·.2) rest
    simp only [Bool.not_eq_true, Bool.decide_eq_true, Bool.decide_eq_false] at h
    rw [List.map_cons, List.sum_cons, ih, foldl_add_eq_add_sum, List.map_cons, List.sum_cons, ← h, add_assoc]

theorem binAux_sublist (b : ℝ) (fuel : Nat) (l : List (Record ℝ × ℝ)) :
    ((binAux b fuel l).map (·.1)).Sublist (l.map (·.1)) := by
  fun_induction binAux b fuel l with
  | case1 l => exact List.Sublist.refl _
  | case2 fuel h => exact List.Sublist.refl _
  | case3 fuel r w rest merged others ih => exact List.Sublist.cons_cons _ (ih.trans (List.filter_sublist.map _))

theorem binAux_pairwise (b : ℝ) (fuel : Nat) (l : List (Record ℝ × ℝ)) (hl : l.length ≤ fuel) :
    (binAux b fuel l).Pairwise (fun y z => close b y.1 z.1 = false) := by
  fun_induction binAux b fuel l with
  | case1 l => rw [List.length_eq_zero_iff.mp (Nat.le_zero.mp hl)]; exact List.Pairwise.nil
  | case2 fuel h => exact List.Pairwise.nil
  | case3 fuel r w rest merged others ih =>
    rw [List.pairwise_cons]
    refine ⟨fun z hz => ?_, ih ((List.length_filter_le _ rest).trans (Nat.le_of_succ_le_succ hl))⟩
    obtain ⟨x, hx, hxz⟩ := List.mem_map.mp ((binAux_sublist b fuel _).subset (List.mem_map_of_mem hz))
    have := (List.mem_filter.mp hx).2
    rw [← hxz]
    simpa using this

theorem binAux_covers (b : ℝ) (fuel : Nat) (l : List (Record ℝ × ℝ)) (x : Record ℝ × ℝ)
    (hx : x ∈ l) : ∃ y ∈ binAux b fuel l, y.1 = x.1 ∨ close b y.1 x.1 = true := by
  fun_induction binAux b fuel l with
  | case1 l => exact ⟨x, hx, Or.inl rfl⟩
  | case2 fuel h => cases hx
  | case3 fuel r w rest merged others ih =>
    rcases List.mem_cons.mp hx with hxa | hxr
    · exact ⟨_, List.mem_cons_self, Or.inl (by rw [hxa])⟩
    · by_cases hc : close b r x.1 = true
      · exact ⟨_, List.mem_cons_self, Or.inr hc⟩
      · obtain ⟨y, hy, hyx⟩ := ih (List.mem_filter.mpr ⟨hxr, by simpa using hc⟩)
        exact ⟨y, List.mem_cons_of_mem _ hy, hyx⟩

end MTfitVerif.Scatangle
