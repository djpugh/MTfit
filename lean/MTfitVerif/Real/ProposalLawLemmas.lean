import MTfitVerif.Real.ProposalLemmas
import MTfitVerif.Real.AcceptanceLemmas
import MTfitVerif.Real.GaussianRealLemmas
/-
  Helper lemmas for the law of the proposals (C06), Gaussian half: the model's `gaussPdf` /
  `gaussCdf` against Mathlib's `gaussianReal`; the truncated-normal law `truncLaw`; for a
  standard-normal draw `z` the law of the candidate `m + s·z` given that it lies in an interval
  range is `truncLaw` (`gaussian_loop_eq`, `gaussian_ratio_eq`), whose density `truncTerm` is the
  factor the acceptance rule's `transPdf` is built from (`integral_transPdf_*`).
  The streams of draws (any draw law) are in `ProposalJointLemmas`.
-/
namespace MTfitVerif.Proposal
open Acceptance MeasureTheory Set ProbabilityTheory Real

/-! ### the model's Gaussian density / CDF versus Mathlib's `gaussianReal` -/

/-- the model's `gaussPdf` (scipy `norm.pdf`) is Mathlib's Gaussian density of variance `s²` -/
theorem gaussPdf_eq_gaussianPDFReal (x m : ℝ) {s : ℝ} (hs : 0 < s) :
    gaussPdf x m s = gaussianPDFReal m (sqNN s) x := by
  rw [gaussPdf_eq, gaussianPDFReal_sqNN hs, ← sq, div_pow, div_div, ← neg_div, div_div, mul_comm (s ^ 2),
    mul_comm _ s]

theorem gaussian_map_cand (m s : ℝ) :
    (gaussianReal 0 1).map (fun z => m + s * z) = gaussianReal m (sqNN s) := by
  have h1 : (fun z : ℝ => m + s * z) = (fun y => m + y) ∘ (fun z => s * z) := rfl
  rw [h1, ← Measure.map_map (measurable_const_add m) (measurable_const_mul s),
    gaussianReal_map_const_mul, gaussianReal_map_const_add, mul_zero, zero_add, mul_one]
  rfl

/-- the Gaussian mass of `[lo, hi]` is the model's truncation normaliser -/
theorem gaussianReal_Icc (m : ℝ) {s : ℝ} (hs : 0 < s) {lo hi : ℝ} (hlh : lo ≤ hi) :
    gaussianReal m (sqNN s) (Set.Icc lo hi) = ENNReal.ofReal (gaussCdf hi m s - gaussCdf lo m s) := by
  rw [gaussianReal_apply_eq_integral m (sqNN_ne_zero hs), ← integral_Icc_gaussPdf m s hlh]
  simp only [gaussPdf_eq_gaussianPDFReal _ m hs]

/-! ### the truncated-normal law -/

/-- the truncated-normal law on `[lo, hi]` about `m` with width `s` -/
noncomputable def truncLaw (m s lo hi : ℝ) : Measure ℝ :=
  (volume.restrict (Set.Icc lo hi)).withDensity fun x => ENNReal.ofReal (truncTerm x m s lo hi)

instance (m s lo hi : ℝ) : SFinite (truncLaw m s lo hi) := by
  unfold truncLaw; infer_instance

theorem truncLaw_apply {m s lo hi : ℝ} {B : Set ℝ} (hB : MeasurableSet B) :
    truncLaw m s lo hi B = ∫⁻ x in B ∩ Set.Icc lo hi, ENNReal.ofReal (truncTerm x m s lo hi) := by
  rw [truncLaw, withDensity_apply _ hB, Measure.restrict_restrict hB]

theorem truncLaw_prob (m : ℝ) {s lo hi : ℝ} (hs : 0 < s) (hlh : lo < hi) :
    IsProbabilityMeasure (truncLaw m s lo hi) :=
  ⟨by rw [truncLaw_apply MeasurableSet.univ, univ_inter, lintegral_truncTerm m hs hlh]⟩

theorem truncLaw_eq_ofReal (m : ℝ) {s lo hi : ℝ} (hs : 0 < s) (hlh : lo < hi) {B : Set ℝ}
    (hB : MeasurableSet B) :
    truncLaw m s lo hi B = ENNReal.ofReal (∫ x in B ∩ Set.Icc lo hi, truncTerm x m s lo hi) := by
  rw [truncLaw_apply hB, setLIntegral_truncTerm m hs hlh inter_subset_right]

/-! ### the conditional law of a redraw loop on standard-normal draws is the truncated normal -/

theorem gaussian_okSet (ok : ℝ → Bool) (m : ℝ) {s lo hi : ℝ} (hs : 0 < s) (hlh : lo ≤ hi)
    (hok : ∀ x, ok x = true ↔ lo ≤ x ∧ x ≤ hi) :
    gaussianReal 0 1 (okSet ok m s) = ENNReal.ofReal (gaussCdf hi m s - gaussCdf lo m s) := by
  rw [okSet_eq_preimage ok m s lo hi hok, ← Measure.map_apply (by fun_prop) measurableSet_Icc,
    gaussian_map_cand, gaussianReal_Icc m hs hlh]

theorem gaussian_okSet_ne_zero (ok : ℝ → Bool) (m : ℝ) {s lo hi : ℝ} (hs : 0 < s) (hlh : lo < hi)
    (hok : ∀ x, ok x = true ↔ lo ≤ x ∧ x ≤ hi) : gaussianReal 0 1 (okSet ok m s) ≠ 0 := by
  rw [gaussian_okSet ok m hs hlh.le hok]
  exact (ENNReal.ofReal_pos.mpr (gaussCdf_sub_pos m hs hlh)).ne'

theorem gaussian_cand_apply (m : ℝ) {s : ℝ} (hs : 0 < s) {B : Set ℝ} (hB : MeasurableSet B) :
    gaussianReal 0 1 ((fun z => m + s * z) ⁻¹' B) = ∫⁻ x in B, ENNReal.ofReal (gaussPdf x m s) := by
  rw [← Measure.map_apply (by fun_prop) hB, gaussian_map_cand, gaussianReal_apply m (sqNN_ne_zero hs)]
  exact lintegral_congr fun x => congrArg ENNReal.ofReal (gaussPdf_eq_gaussianPDFReal x m hs).symm

/-- the (unnormalised) law of one pass of a redraw loop: in-range mass times the truncated-normal
    law -/
theorem gaussian_loop_eq (ok : ℝ → Bool) (m : ℝ) {s lo hi : ℝ} (hs : 0 < s) (hlh : lo < hi)
    (hok : ∀ x, ok x = true ↔ lo ≤ x ∧ x ≤ hi) {B : Set ℝ} (hB : MeasurableSet B) :
    gaussianReal 0 1 (okSet ok m s ∩ (fun z => m + s * z) ⁻¹' B) =
      gaussianReal 0 1 (okSet ok m s) * truncLaw m s lo hi B := by
  have hZ := gaussCdf_sub_pos m hs hlh
  rw [gaussian_okSet ok m hs hlh.le hok, okSet_eq_preimage ok m s lo hi hok, ← preimage_inter,
    inter_comm, gaussian_cand_apply m hs (hB.inter measurableSet_Icc), truncLaw_apply hB,
    ← lintegral_const_mul' _ _ ENNReal.ofReal_ne_top]
  refine lintegral_congr fun x => ?_
  rw [truncTerm, ENNReal.ofReal_div_of_pos hZ,
    ENNReal.mul_div_cancel (ENNReal.ofReal_pos.mpr hZ).ne' ENNReal.ofReal_ne_top]

theorem gaussian_ratio_eq (ok : ℝ → Bool) (m : ℝ) {s lo hi : ℝ} (hs : 0 < s) (hlh : lo < hi)
    (hok : ∀ x, ok x = true ↔ lo ≤ x ∧ x ≤ hi) {A : Set ℝ} (hA : MeasurableSet A) :
    gaussianReal 0 1 (okSet ok m s ∩ (fun z => m + s * z) ⁻¹' A) / gaussianReal 0 1 (okSet ok m s) =
      ENNReal.ofReal (∫ x in A ∩ Set.Icc lo hi, truncTerm x m s lo hi) := by
  rw [gaussian_loop_eq ok m hs hlh hok hA, truncLaw_eq_ofReal m hs hlh hA,
    mul_comm, ENNReal.mul_div_cancel_right (gaussian_okSet_ne_zero ok m hs hlh hok) (measure_ne_top _ _)]

theorem gaussian_ratio_eq_of_subset (ok : ℝ → Bool) (m : ℝ) {s lo hi : ℝ} (hs : 0 < s) (hlh : lo < hi)
    (hok : ∀ x, ok x = true ↔ lo ≤ x ∧ x ≤ hi) {A : Set ℝ} (hA : MeasurableSet A)
    (hAsub : A ⊆ Set.Icc lo hi) :
    gaussianReal 0 1 (okSet ok m s ∩ (fun z => m + s * z) ⁻¹' A) / gaussianReal 0 1 (okSet ok m s) =
      ENNReal.ofReal (∫ x in A, truncTerm x m s lo hi) := by
  rw [gaussian_ratio_eq ok m hs hlh hok hA, Set.inter_eq_left.mpr hAsub]

/-! ### the product of the four truncated-Gaussian integrals is the integral of `transPdf` -/

/-- the source parameters `(γ, δ, h, σ)` and a strike as a `Tape` -/
def tapeOf (p : ℝ × ℝ × ℝ × ℝ) (κ : ℝ) : Tape ℝ :=
  { gamma := p.1, delta := p.2.1, kappa := κ, h := p.2.2.1, sigma := p.2.2.2 }

theorem setIntegral_prod4_mul (f1 f2 f3 f4 : ℝ → ℝ) (A B C D : Set ℝ) :
    (∫ x in A, f1 x) * ((∫ x in B, f2 x) * ((∫ x in C, f3 x) * ∫ x in D, f4 x)) =
      ∫ p in A ×ˢ (B ×ˢ (C ×ˢ D)), f1 p.1 * (f2 p.2.1 * (f3 p.2.2.1 * f4 p.2.2.2)) := by
  rw [← setIntegral_prod_mul f3 f4 C D, ← setIntegral_prod_mul f2 _ B (C ×ˢ D),
    ← setIntegral_prod_mul f1 _ A (B ×ˢ (C ×ˢ D))]
  -- `volume` on a product type is `volume.prod volume` by definition
  rfl

theorem integral_transPdf_false (w : Widths ℝ) (ξ : Tape ℝ) (κ : ℝ) (Bγ Bδ Bh Bσ : Set ℝ) :
    ∫ p in Bγ ×ˢ (Bδ ×ˢ (Bh ×ˢ Bσ)), transPdf false w (tapeOf p κ) ξ =
      (∫ x in Bγ, truncTerm x ξ.gamma w.gamma (-(π / 6)) (π / 6)) *
        ((∫ x in Bδ, truncTerm x ξ.delta w.delta (-(π / 2)) (π / 2)) *
          ((∫ x in Bh, truncTerm x ξ.h w.h 0 1) *
            ∫ x in Bσ, truncTerm x ξ.sigma w.sigma (-(π / 2)) (π / 2))) := by
  simp_rw [transPdf_false, tapeOf, mul_assoc]
  symm
  exact setIntegral_prod4_mul _ _ _ _ Bγ Bδ Bh Bσ

theorem integral_transPdf_true (w : Widths ℝ) (ξ : Tape ℝ) (κ : ℝ) (Bh Bσ : Set ℝ) :
    ∫ p in Bh ×ˢ Bσ, transPdf true w { gamma := 0, delta := 0, kappa := κ, h := p.1, sigma := p.2 } ξ =
      (∫ x in Bh, truncTerm x ξ.h w.h 0 1) *
        ∫ x in Bσ, truncTerm x ξ.sigma w.sigma (-(π / 2)) (π / 2) := by
  simp_rw [transPdf_true]
  exact setIntegral_prod_mul (μ := volume) (ν := volume) (fun x => truncTerm x ξ.h w.h 0 1)
    (fun x => truncTerm x ξ.sigma w.sigma (-(π / 2)) (π / 2)) Bh Bσ

end MTfitVerif.Proposal
