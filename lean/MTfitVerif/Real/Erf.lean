import Mathlib.Analysis.SpecialFunctions.Gaussian.GaussianIntegral
/-
  The error function over ℝ (Mathlib has none): `erf x = 2/√π ∫₀ˣ e^{-t²} dt`,
  with the facts the likelihood theorems need.
-/
namespace MTfitVerif
open Real MeasureTheory Filter Topology

noncomputable def erf (x : ℝ) : ℝ := (2 / √π) * ∫ t in (0:ℝ)..x, exp (-t^2)

private theorem gauss_cont : Continuous fun t : ℝ => exp (-t^2) := by fun_prop

@[simp] theorem erf_zero : erf 0 = 0 := by simp [erf]

theorem erf_neg (x : ℝ) : erf (-x) = -erf x := by
  unfold erf
  have h := intervalIntegral.integral_comp_neg (a := 0) (b := x) (fun t : ℝ => exp (-t^2))
  simp only [neg_sq, neg_zero] at h
  rw [intervalIntegral.integral_symm, ← h]
  ring

theorem hasDerivAt_erf (x : ℝ) : HasDerivAt erf (2 / √π * exp (-x^2)) x :=
  ((gauss_cont.integral_hasStrictDerivAt 0 x).hasDerivAt).const_mul (2 / √π)

@[fun_prop]
theorem erf_continuous : Continuous erf :=
  continuous_iff_continuousAt.mpr fun x => (hasDerivAt_erf x).continuousAt

theorem erf_strictMono : StrictMono erf :=
  strictMono_of_deriv_pos fun x => by rw [(hasDerivAt_erf x).deriv]; positivity

theorem erf_mono : Monotone erf := erf_strictMono.monotone

theorem erf_nonneg {x : ℝ} (hx : 0 ≤ x) : 0 ≤ erf x := erf_zero ▸ erf_mono hx

theorem erf_pos {x : ℝ} (hx : 0 < x) : 0 < erf x := erf_zero ▸ erf_strictMono hx

private theorem gauss_integrable : Integrable fun t : ℝ => exp (-t^2) := by
  simpa only [neg_one_mul] using integrable_exp_neg_mul_sq (b := 1) one_pos

private theorem gauss_Ioi : ∫ t in Set.Ioi (0:ℝ), exp (-t^2) = √π / 2 := by
  simpa only [neg_one_mul, div_one] using integral_gaussian_Ioi 1

theorem erf_tendsto_atTop : Tendsto erf atTop (𝓝 1) := by
  have h := (intervalIntegral_tendsto_integral_Ioi (μ := volume) 0 gauss_integrable.integrableOn
    tendsto_id).const_mul (2 / √π)
  rwa [gauss_Ioi, div_mul_div_comm, mul_comm 2, div_self (by positivity)] at h

theorem erf_lt_one (x : ℝ) : erf x < 1 :=
  (erf_strictMono (lt_add_one x)).trans_le (erf_mono.ge_of_tendsto erf_tendsto_atTop (x + 1))

theorem neg_one_lt_erf (x : ℝ) : -1 < erf x := by
  have := erf_lt_one (-x); rw [erf_neg] at this; linarith

theorem abs_erf_lt_one (x : ℝ) : |erf x| < 1 :=
  abs_lt.mpr ⟨neg_one_lt_erf x, erf_lt_one x⟩

theorem erf_tendsto_atBot : Tendsto erf atBot (𝓝 (-1)) := by
  have h := (erf_tendsto_atTop.comp tendsto_neg_atBot_atTop).neg
  refine h.congr (fun x => ?_)
  simp [erf_neg]

theorem sqrt_two_pi : √(2 * π) = √2 * √π := Real.sqrt_mul (by norm_num) π

end MTfitVerif
