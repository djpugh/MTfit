import MTfitVerif.Real.StationaryLemmas
/-
  Helper definitions and lemmas for C07 (trans-dimensional half): mixtures of kernels, the
  two-model state space `D ⊕ M` with its reference measure and joint target, kernels on a sum
  type, the reversible-jump kernel between `D` and `M = D × G`, and the within-model kernels lifted
  to the two-model space.
-/
namespace MTfitVerif.TransD
open MeasureTheory ProbabilityTheory MTfitVerif.Stationary
open scoped ENNReal

/-! ### mixtures of two kernels -/
section Mixture
variable {X Y : Type*} [MeasurableSpace X] [MeasurableSpace Y]

/-- with probability `p` use `κ`, otherwise `η` -/
noncomputable def mixKernel (p : ℝ≥0∞) (κ η : Kernel X Y) : Kernel X Y :=
  ⟨fun x => p • κ x + (1 - p) • η x, by
    refine Measure.measurable_of_measurable_coe _ fun s hs => ?_
    simp only [Measure.add_apply, Measure.smul_apply, smul_eq_mul]
    exact ((Kernel.measurable_coe κ hs).const_mul p).add ((Kernel.measurable_coe η hs).const_mul _)⟩

theorem mixKernel_apply (p : ℝ≥0∞) (κ η : Kernel X Y) (x : X) (B : Set Y) :
    mixKernel p κ η x B = p * κ x B + (1 - p) * η x B := by
  show (p • κ x + (1 - p) • η x) B = _
  simp only [Measure.add_apply, Measure.smul_apply, smul_eq_mul]

/-- the mixture as a set function: with probability `p` step with `K₁`, otherwise with `K₂` -/
noncomputable def mixK {X Y : Type*} (p : ℝ≥0∞) (K₁ K₂ : X → Set Y → ℝ≥0∞) (x : X) (B : Set Y) :
    ℝ≥0∞ :=
  p * K₁ x B + (1 - p) * K₂ x B

theorem mixKernel_isMarkov {p : ℝ≥0∞} (hp : p ≤ 1) (κ η : Kernel X Y) [IsMarkovKernel κ]
    [IsMarkovKernel η] : IsMarkovKernel (mixKernel p κ η) := by
  refine ⟨fun x => ⟨?_⟩⟩
  rw [mixKernel_apply, measure_univ, measure_univ, mul_one, mul_one, add_tsub_cancel_of_le hp]

theorem mixKernel_invariant {p : ℝ≥0∞} (hp : p ≤ 1) {κ η : Kernel X X} {μ : Measure X}
    (hκ : Kernel.Invariant κ μ) (hη : Kernel.Invariant η μ) :
    Kernel.Invariant (mixKernel p κ η) μ := by
  unfold Kernel.Invariant
  ext B hB
  rw [Measure.bind_apply hB (Kernel.aemeasurable _)]
  simp only [mixKernel_apply]
  rw [lintegral_add_left ((Kernel.measurable_coe κ hB).const_mul p),
    lintegral_const_mul _ (Kernel.measurable_coe κ hB),
    lintegral_const_mul _ (Kernel.measurable_coe η hB), lintegral_of_invariant hκ hB,
    lintegral_of_invariant hη hB, ← add_mul, add_tsub_cancel_of_le hp, one_mul]

end Mixture

/-! ### the two-model space `D ⊕ M` -/
section SumSpace
variable {D M : Type*} [MeasurableSpace D] [MeasurableSpace M]

theorem measurableEmbedding_inl : MeasurableEmbedding (Sum.inl : D → D ⊕ M) :=
  ⟨Sum.inl_injective, measurable_inl, fun _ hs => MeasurableSet.inl_image hs⟩

theorem measurableEmbedding_inr : MeasurableEmbedding (Sum.inr : M → D ⊕ M) :=
  ⟨Sum.inr_injective, measurable_inr, fun _ hs => MeasurableSet.inr_image hs⟩

/-- reference measure on the two-model space: `lamD` on the first summand, `lamM` on the second -/
noncomputable def sumMeasure (lamD : Measure D) (lamM : Measure M) : Measure (D ⊕ M) :=
  lamD.map Sum.inl + lamM.map Sum.inr

instance (lamD : Measure D) (lamM : Measure M) [SFinite lamD] [SFinite lamM] :
    SFinite (sumMeasure lamD lamM) := by
  unfold sumMeasure; infer_instance

theorem lintegral_sumMeasure (lamD : Measure D) (lamM : Measure M) (f : D ⊕ M → ℝ≥0∞) :
    ∫⁻ x, f x ∂(sumMeasure lamD lamM)
      = ∫⁻ d, f (Sum.inl d) ∂lamD + ∫⁻ m, f (Sum.inr m) ∂lamM := by
  unfold sumMeasure
  rw [lintegral_add_measure, measurableEmbedding_inl.lintegral_map,
    measurableEmbedding_inr.lintegral_map]

theorem setLIntegral_sumMeasure (lamD : Measure D) (lamM : Measure M) (f : D ⊕ M → ℝ≥0∞)
    {B : Set (D ⊕ M)} (hB : MeasurableSet B) :
    ∫⁻ x in B, f x ∂(sumMeasure lamD lamM)
      = ∫⁻ d in Sum.inl ⁻¹' B, f (Sum.inl d) ∂lamD + ∫⁻ m in Sum.inr ⁻¹' B, f (Sum.inr m) ∂lamM := by
  rw [← lintegral_indicator hB, lintegral_sumMeasure,
    ← lintegral_indicator (measurable_inl hB), ← lintegral_indicator (measurable_inr hB)]
  rfl

/-- joint target density: model probability `pD` times the within-model density on `D`, `1 - pD`
    times the within-model density on `M` -/
noncomputable def sumTarget (pD : ℝ≥0∞) (πD : D → ℝ≥0∞) (πM : M → ℝ≥0∞) : D ⊕ M → ℝ≥0∞ :=
  Sum.elim (fun d => pD * πD d) (fun m => (1 - pD) * πM m)

omit [MeasurableSpace D] [MeasurableSpace M] in
@[simp] theorem sumTarget_inl (pD : ℝ≥0∞) (πD : D → ℝ≥0∞) (πM : M → ℝ≥0∞) (d : D) :
    sumTarget pD πD πM (Sum.inl d) = pD * πD d := rfl

omit [MeasurableSpace D] [MeasurableSpace M] in
@[simp] theorem sumTarget_inr (pD : ℝ≥0∞) (πD : D → ℝ≥0∞) (πM : M → ℝ≥0∞) (m : M) :
    sumTarget pD πD πM (Sum.inr m) = (1 - pD) * πM m := rfl

theorem measurable_sumTarget (pD : ℝ≥0∞) {πD : D → ℝ≥0∞} {πM : M → ℝ≥0∞} (hD : Measurable πD)
    (hM : Measurable πM) : Measurable (sumTarget pD πD πM) :=
  (hD.const_mul pD).sumElim (hM.const_mul _)

/-- a kernel out of a sum type from a kernel out of each summand -/
noncomputable def sumKernel {Y : Type*} [MeasurableSpace Y] (κ : Kernel D Y) (η : Kernel M Y) :
    Kernel (D ⊕ M) Y :=
  ⟨Sum.elim κ η, κ.measurable.sumElim η.measurable⟩

@[simp] theorem sumKernel_inl {Y : Type*} [MeasurableSpace Y] (κ : Kernel D Y) (η : Kernel M Y)
    (d : D) : sumKernel κ η (Sum.inl d) = κ d := rfl

@[simp] theorem sumKernel_inr {Y : Type*} [MeasurableSpace Y] (κ : Kernel D Y) (η : Kernel M Y)
    (m : M) : sumKernel κ η (Sum.inr m) = η m := rfl

theorem sumKernel_isMarkov {Y : Type*} [MeasurableSpace Y] (κ : Kernel D Y) (η : Kernel M Y)
    [IsMarkovKernel κ] [IsMarkovKernel η] : IsMarkovKernel (sumKernel κ η) :=
  ⟨fun x => by cases x <;> simp only [sumKernel_inl, sumKernel_inr] <;> infer_instance⟩

/-- the within-model kernels lifted to the two-model space: from a state of `D` move within `D`
    with `κD`, from a state of `M` move within `M` with `κM` -/
noncomputable def withinKernel (κD : Kernel D D) (κM : Kernel M M) : Kernel (D ⊕ M) (D ⊕ M) :=
  sumKernel (κD.map Sum.inl) (κM.map Sum.inr)

theorem withinKernel_inl (κD : Kernel D D) (κM : Kernel M M) (d : D) {B : Set (D ⊕ M)}
    (hB : MeasurableSet B) : withinKernel κD κM (Sum.inl d) B = κD d (Sum.inl ⁻¹' B) := by
  unfold withinKernel
  rw [sumKernel_inl, Kernel.map_apply' _ measurable_inl _ hB]

theorem withinKernel_inr (κD : Kernel D D) (κM : Kernel M M) (m : M) {B : Set (D ⊕ M)}
    (hB : MeasurableSet B) : withinKernel κD κM (Sum.inr m) B = κM m (Sum.inr ⁻¹' B) := by
  unfold withinKernel
  rw [sumKernel_inr, Kernel.map_apply' _ measurable_inr _ hB]

theorem withinKernel_isMarkov (κD : Kernel D D) (κM : Kernel M M) [IsMarkovKernel κD]
    [IsMarkovKernel κM] : IsMarkovKernel (withinKernel κD κM) := by
  unfold withinKernel
  have := Kernel.IsMarkovKernel.map κD (measurable_inl (α := D) (β := M))
  have := Kernel.IsMarkovKernel.map κM (measurable_inr (α := D) (β := M))
  exact sumKernel_isMarkov _ _

theorem withinKernel_invariant (lamD : Measure D) (lamM : Measure M) (pD : ℝ≥0∞) {πD : D → ℝ≥0∞}
    {πM : M → ℝ≥0∞} {κD : Kernel D D} {κM : Kernel M M} (hπD : Measurable πD) (hπM : Measurable πM)
    (hD : Kernel.Invariant κD (lamD.withDensity πD)) (hM : Kernel.Invariant κM (lamM.withDensity πM)) :
    Kernel.Invariant (withinKernel κD κM)
      ((sumMeasure lamD lamM).withDensity (sumTarget pD πD πM)) := by
  refine (invariant_withDensity_iff (measurable_sumTarget pD hπD hπM)).mpr fun B hB => ?_
  have hBD := measurable_inl hB
  have hBM := measurable_inr hB
  rw [lintegral_sumMeasure, setLIntegral_sumMeasure _ _ _ hB]
  simp only [sumTarget_inl, sumTarget_inr, withinKernel_inl _ _ _ hB, withinKernel_inr _ _ _ hB,
    mul_assoc]
  have m1 : Measurable fun d => πD d * κD d (Sum.inl ⁻¹' B) :=
    hπD.mul (Kernel.measurable_coe κD hBD)
  have m2 : Measurable fun m => πM m * κM m (Sum.inr ⁻¹' B) :=
    hπM.mul (Kernel.measurable_coe κM hBM)
  rw [lintegral_const_mul _ m1, lintegral_const_mul _ m2, lintegral_const_mul _ hπD, lintegral_const_mul _ hπM,
    (invariant_withDensity_iff hπD).mp hD _ hBD, (invariant_withDensity_iff hπM).mp hM _ hBM]

end SumSpace

/-! ### the reversible-jump kernel between `D` and `M = D × G` -/
section Jump
variable {D G : Type*} [MeasurableSpace D] [MeasurableSpace G]

/-- probability that the jump proposed from `d` is accepted: `∫ qJ(d,g) aUp(d,g) λ_G(dg)` -/
noncomputable def upProb (lamG : Measure G) (qJ aUp : D → G → ℝ≥0∞) (d : D) : ℝ≥0∞ :=
  ∫⁻ g, qJ d g * aUp d g ∂lamG

/-- the jump kernel as a set function.  From the state `d` of the small model: draw `g` with
    density `qJ d ·`, propose `(d, g)` in the large model, accept with probability `aUp d g`,
    otherwise stay at `d`.  From the state `m = (d, g)` of the large model: propose `d` (drop the
    extra coordinates), accept with probability `aDown m`, otherwise stay at `m`. -/
noncomputable def jumpK (lamG : Measure G) (qJ aUp : D → G → ℝ≥0∞) (aDown : D × G → ℝ≥0∞) :
    D ⊕ D × G → Set (D ⊕ D × G) → ℝ≥0∞
  | .inl d, B => ∫⁻ g in {g | Sum.inr (d, g) ∈ B}, qJ d g * aUp d g ∂lamG
      + (1 - upProb lamG qJ aUp d) * B.indicator 1 (Sum.inl d)
  | .inr m, B => aDown m * B.indicator 1 (Sum.inl m.1) + (1 - aDown m) * B.indicator 1 (Sum.inr m)

omit [MeasurableSpace D] in
theorem jumpK_inl (lamG : Measure G) (qJ aUp : D → G → ℝ≥0∞) (aDown : D × G → ℝ≥0∞) (d : D)
    (B : Set (D ⊕ D × G)) :
    jumpK lamG qJ aUp aDown (Sum.inl d) B
      = ∫⁻ g in Prod.mk d ⁻¹' (Sum.inr ⁻¹' B), qJ d g * aUp d g ∂lamG
        + (1 - upProb lamG qJ aUp d) * (Sum.inl ⁻¹' B).indicator 1 d := rfl

omit [MeasurableSpace D] in
theorem jumpK_inr (lamG : Measure G) (qJ aUp : D → G → ℝ≥0∞) (aDown : D × G → ℝ≥0∞) (m : D × G)
    (B : Set (D ⊕ D × G)) :
    jumpK lamG qJ aUp aDown (Sum.inr m) B
      = aDown m * (Sum.inl ⁻¹' B).indicator 1 m.1 + (1 - aDown m) * (Sum.inr ⁻¹' B).indicator 1 m :=
  rfl

variable {lamD : Measure D} {lamG : Measure G} {qJ aUp : D → G → ℝ≥0∞} {aDown : D × G → ℝ≥0∞}

/-- Tonelli and the jump balance: the flow from the part `A` of the small model into the set `C`
    of the large model, written from either side -/
theorem jump_flow [SFinite lamG] {pD : ℝ≥0∞} {πD : D → ℝ≥0∞} {πM : D × G → ℝ≥0∞}
    (hπM : Measurable πM) (hq : Measurable (Function.uncurry qJ))
    (ha : Measurable (Function.uncurry aUp)) (haD : Measurable aDown)
    (hdb : ∀ d g, pD * πD d * qJ d g * aUp d g = (1 - pD) * πM (d, g) * aDown (d, g))
    {A : Set D} (hA : MeasurableSet A) {C : Set (D × G)} (hC : MeasurableSet C) :
    ∫⁻ d in A, pD * πD d * ∫⁻ g in Prod.mk d ⁻¹' C, qJ d g * aUp d g ∂lamG ∂lamD
      = ∫⁻ m in C, (1 - pD) * πM m * (aDown m * A.indicator 1 m.1) ∂(lamD.prod lamG) := by
  have hF : Measurable fun m : D × G => (1 - pD) * πM m * (aDown m * A.indicator 1 m.1) :=
    (hπM.const_mul _).mul (haD.mul ((measurable_one.indicator hA).comp measurable_fst))
  rw [← lintegral_indicator hC, ← lintegral_indicator hA,
    lintegral_prod _ (hF.indicator hC).aemeasurable]
  refine lintegral_congr fun d => ?_
  by_cases hd : d ∈ A
  · rw [Set.indicator_of_mem hd, ← lintegral_const_mul _ (Measurable.of_uncurry_left (measurable_qa hq ha)),
      ← lintegral_indicator (measurable_prodMk_left hC)]
    refine lintegral_congr fun g => ?_
    by_cases hg : (d, g) ∈ C
    · rw [Set.indicator_of_mem (show g ∈ Prod.mk d ⁻¹' C from hg), Set.indicator_of_mem hg,
        Set.indicator_of_mem (show (d, g).1 ∈ A from hd), ← mul_assoc, hdb, Pi.one_apply, mul_one]
    · rw [Set.indicator_of_notMem (show g ∉ Prod.mk d ⁻¹' C from hg), Set.indicator_of_notMem hg]
  · rw [Set.indicator_of_notMem hd]
    refine (lintegral_eq_zero_of_ae_eq_zero (Filter.Eventually.of_forall fun g => ?_)).symm
    refine Set.indicator_apply_eq_zero.mpr fun _ => ?_
    rw [Set.indicator_of_notMem (show (d, g).1 ∉ A from hd), mul_zero, mul_zero]

theorem measurable_setLIntegral_section [SFinite lamG] {f : D → G → ℝ≥0∞}
    (hf : Measurable (Function.uncurry f)) {BM : Set (D × G)} (hBM : MeasurableSet BM) :
    Measurable fun d => ∫⁻ g in Prod.mk d ⁻¹' BM, f d g ∂lamG := by
  simp only [← lintegral_indicator (measurable_prodMk_left hBM)]
  exact (hf.indicator hBM).lintegral_prod_right'

/-- the kernel `d ↦ law of (d, g)` with `g` distributed with density `f d ·` w.r.t. `lamG`
    (the zero kernel if `f` is not measurable, as for `Kernel.withDensity`; no finiteness of `f`
    is needed) -/
noncomputable def upMove (lamG : Measure G) [SFinite lamG] (f : D → G → ℝ≥0∞) : Kernel D (D × G) :=
  open Classical in
  if h : Measurable (Function.uncurry f) then
    ⟨fun d => (lamG.withDensity (f d)).map (Prod.mk d), by
      refine Measure.measurable_of_measurable_coe _ fun s hs => ?_
      simp only [Measure.map_apply measurable_prodMk_left hs,
        withDensity_apply _ (measurable_prodMk_left hs)]
      exact measurable_setLIntegral_section h hs⟩
  else 0

theorem upMove_apply [SFinite lamG] {f : D → G → ℝ≥0∞} (h : Measurable (Function.uncurry f))
    (d : D) {s : Set (D × G)} (hs : MeasurableSet s) :
    upMove lamG f d s = ∫⁻ g in Prod.mk d ⁻¹' s, f d g ∂lamG := by
  unfold upMove
  rw [dif_pos h]
  show ((lamG.withDensity (f d)).map (Prod.mk d)) s = _
  rw [Measure.map_apply measurable_prodMk_left hs, withDensity_apply _ (measurable_prodMk_left hs)]

/-- the jump kernel as a Mathlib `Kernel` on the two-model space -/
noncomputable def jumpKernel (lamG : Measure G) [SFinite lamG] (qJ aUp : D → G → ℝ≥0∞)
    (aDown : D × G → ℝ≥0∞) : Kernel (D ⊕ D × G) (D ⊕ D × G) :=
  sumKernel
    (Kernel.map (upMove lamG fun d g => qJ d g * aUp d g) Sum.inr
      + Kernel.withDensity (Kernel.deterministic (Sum.inl : D → D ⊕ D × G) measurable_inl)
          (fun d _ => 1 - upProb lamG qJ aUp d))
    (Kernel.withDensity (Kernel.deterministic (fun m : D × G => (Sum.inl m.1 : D ⊕ D × G))
          (measurable_inl.comp measurable_fst)) (fun m _ => aDown m)
      + Kernel.withDensity (Kernel.deterministic (Sum.inr : D × G → D ⊕ D × G) measurable_inr)
          (fun m _ => 1 - aDown m))

theorem jumpKernel_apply [SFinite lamG] (hq : Measurable (Function.uncurry qJ))
    (ha : Measurable (Function.uncurry aUp)) (haD : Measurable aDown) (x : D ⊕ D × G)
    {B : Set (D ⊕ D × G)} (hB : MeasurableSet B) :
    jumpKernel lamG qJ aUp aDown x B = jumpK lamG qJ aUp aDown x B := by
  cases x with
  | inl d =>
    refine (Measure.add_apply _ _ _).trans (congr_arg₂ (· + ·) ?_
      (withDensity_deterministic_apply measurable_inl
        (measurable_const.sub (measurable_lintegral_qa hq ha)) d hB))
    rw [Kernel.map_apply' _ measurable_inr _ hB,
      upMove_apply (measurable_qa hq ha) _ (measurable_inr hB)]
    rfl
  | inr m =>
    exact (Measure.add_apply _ _ _).trans (congr_arg₂ (· + ·)
      (withDensity_deterministic_apply (measurable_inl.comp measurable_fst) haD m hB)
      (withDensity_deterministic_apply measurable_inr (measurable_const.sub haD) m hB))

/-- **the jump balance ⇒ the jump kernel is reversible** w.r.t. the joint target: it moves between
    the models or stays, and the two cross flows are each other's mirror image (`jump_flow`) -/
theorem jumpKernel_isReversible [SFinite lamD] [SFinite lamG] {pD : ℝ≥0∞} {πD : D → ℝ≥0∞}
    {πM : D × G → ℝ≥0∞} (hπD : Measurable πD) (hπM : Measurable πM)
    (hq : Measurable (Function.uncurry qJ)) (ha : Measurable (Function.uncurry aUp))
    (haD : Measurable aDown)
    (hdb : ∀ d g, pD * πD d * qJ d g * aUp d g = (1 - pD) * πM (d, g) * aDown (d, g)) :
    (jumpKernel lamG qJ aUp aDown).IsReversible
      ((sumMeasure lamD (lamD.prod lamG)).withDensity (sumTarget pD πD πM)) := by
  refine isReversible_of_move_stay
    (M := fun x B => Sum.elim
      (fun d => ∫⁻ g in Prod.mk d ⁻¹' (Sum.inr ⁻¹' B), qJ d g * aUp d g ∂lamG)
      (fun m => aDown m * (Sum.inl ⁻¹' B).indicator 1 m.1) x)
    (r := Sum.elim (fun d => 1 - upProb lamG qJ aUp d) (fun m => 1 - aDown m))
    (measurable_sumTarget pD hπD hπM)
    ((measurable_const.sub (measurable_lintegral_qa hq ha)).sumElim (measurable_const.sub haD))
    (fun x B hB => ?_) fun A B hA hB => ?_
  · rw [jumpKernel_apply hq ha haD x hB]
    cases x <;> rfl
  · rw [setLIntegral_sumMeasure _ _ _ hA, setLIntegral_sumMeasure _ _ _ hB]
    simp only [sumTarget_inl, sumTarget_inr, Sum.elim_inl, Sum.elim_inr]
    rw [jump_flow hπM hq ha haD hdb (measurable_inl hA) (measurable_inr hB),
      ← jump_flow hπM hq ha haD hdb (measurable_inl hB) (measurable_inr hA), add_comm]

theorem jumpKernel_isMarkov [SFinite lamG] (hq : Measurable (Function.uncurry qJ))
    (ha : Measurable (Function.uncurry aUp)) (haD : Measurable aDown)
    (hqn : ∀ d, ∫⁻ g, qJ d g ∂lamG = 1) (ha1 : ∀ d g, aUp d g ≤ 1) (haD1 : ∀ m, aDown m ≤ 1) :
    IsMarkovKernel (jumpKernel lamG qJ aUp aDown) := by
  refine ⟨fun x => ⟨?_⟩⟩
  rw [jumpKernel_apply hq ha haD x MeasurableSet.univ]
  cases x with
  | inl d =>
    rw [jumpK_inl]
    simp only [Set.preimage_univ, Measure.restrict_univ, Set.indicator_univ, Pi.one_apply, mul_one]
    exact add_tsub_cancel_of_le (lintegral_qa_le_one hqn ha1 d)
  | inr m =>
    rw [jumpK_inr]
    simp only [Set.preimage_univ, Set.indicator_univ, Pi.one_apply, mul_one]
    exact add_tsub_cancel_of_le (haD1 m)

end Jump

end MTfitVerif.TransD
