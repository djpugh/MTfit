import MTfitVerif.Model.SampleStore
import MTfitVerif.Real.LogDomainLemmas
/-
  The sample store (`Model/SampleStore.lean`).  After the growth loop and `writeAt`: `append_eq` is the
  one normal form of `append`; its projections and `append_cols` are read off it, and no later proof
  looks into the growth loop.  Then finiteness of the marginals, `selectBy` and the mask `keepIdx`,
  the two cases of `output`, and the bounds on `runIteration`.
-/
namespace MTfitVerif
namespace SampleStore
open LogP LogDomain

/-! ### `growTo`, `writeAt` -/

theorem growTo_spec_of_fuel (init i k : Nat) (hinit : 0 < init) :
    ∀ (fuel cap : Nat), i ≤ cap → k + 1 ≤ fuel + (cap - i) →
      cap ≤ growTo init i k fuel cap ∧ k < growTo init i k fuel cap - i ∧
      (k < cap - i → growTo init i k fuel cap = cap) := by
  intro fuel
  induction fuel with
  | zero => exact fun cap _ h => ⟨le_refl _, by rw [growTo]; omega, fun _ => rfl⟩
  | succ f ih =>
    intro cap hi h
    rw [growTo]
    split
    · exact ⟨le_refl _, ‹_›, fun _ => rfl⟩
    · rename_i hn
      obtain ⟨h1, h2, _⟩ := ih (cap + init) (Nat.le_add_right_of_le hi) (by omega)
      exact ⟨(Nat.le_add_right _ _).trans h1, h2, fun hk => absurd hk hn⟩

theorem writeAt_length (cols : List Nat) (i : Nat) (new : List Nat)
    (h : i + new.length ≤ cols.length) : (writeAt cols i new).length = cols.length := by
  rw [writeAt, List.length_append, List.length_append, List.length_take, List.length_drop,
    Nat.min_eq_left (Nat.le_of_add_right_le h), Nat.add_sub_cancel' h]

theorem writeAt_take (cols : List Nat) (i : Nat) (new : List Nat) (h : i ≤ cols.length) :
    (writeAt cols i new).take (i + new.length) = cols.take i ++ new :=
  List.take_left' (by rw [List.length_append, List.length_take_of_le h])

/-! ### `append`, `view` -/

section append
variable (s : Store ℝ) (batch : List (Cand ℝ)) (nT : Nat)

theorem append_eq :
    append s batch nT =
      { s with
        cols := if batch.filter nonzero = [] then s.cols else
          writeAt (s.cols ++ List.replicate
            (growTo s.init s.i (batch.filter nonzero).length
              ((batch.filter nonzero).length + s.i + 2) s.cols.length - s.cols.length) 0)
            s.i ((batch.filter nonzero).map (·.tok)),
        i := s.i + (batch.filter nonzero).length,
        lnCols := s.lnCols ++ (batch.filter nonzero).map (·.col),
        sf := s.sf ++ (batch.filter nonzero).map (·.sf),
        n := s.n + nT } := by
  by_cases h : batch.filter nonzero = [] <;> simp [append, h]

theorem append_init : (append s batch nT).init = s.init := by rw [append_eq]

theorem append_n : (append s batch nT).n = s.n + nT := by rw [append_eq]

theorem append_i : (append s batch nT).i = s.i + (batch.filter nonzero).length := by rw [append_eq]

theorem append_lnCols :
    (append s batch nT).lnCols = s.lnCols ++ (batch.filter nonzero).map (·.col) := by rw [append_eq]

theorem append_sf :
    (append s batch nT).sf = s.sf ++ (batch.filter nonzero).map (·.sf) := by rw [append_eq]

/-- the first `i + k` entries of the tensor array after an append are the old first `i` entries
    followed by the new tokens — whatever capacity the growth loop chose -/
theorem append_cols (h1 : s.i ≤ s.cols.length) :
    (append s batch nT).cols.take (s.i + (batch.filter nonzero).length)
      = s.cols.take s.i ++ (batch.filter nonzero).map (·.tok) := by
  rw [append_eq]
  dsimp only
  split
  · rename_i h; simp [h]
  · rw [← List.length_map (·.tok), writeAt_take _ _ _ (h1.trans (by rw [List.length_append]; exact Nat.le_add_right _ _)),
      List.take_append_of_le_length h1]

end append

theorem filter_nonzero_eq_nil {b : List (Cand ℝ)} (hz : ∀ c ∈ b, nonzero c = false) :
    b.filter nonzero = [] :=
  List.filter_eq_nil_iff.2 fun c hc => ne_true_of_eq_false (hz c hc)

@[simp] theorem view_empty (init : Nat) : view (empty init : Store ℝ) = [] := rfl

/-! ### marginals, normalisation, selection -/

theorem marginals_length (s : Store ℝ) : (marginals s).length = s.lnCols.length :=
  List.length_map _

theorem lnMargCol_isFin {col : List (LogP ℝ)} (h : col.any isFin = true) (dV : ℝ) :
    isFin (lnMargCol col dV) = true := by
  obtain ⟨x, hx, hxf⟩ := List.any_eq_true.mp h
  cases hm : maxFin col with
  | none => rw [maxFin_eq_none_iff.mp hm x hx] at hxf; cases hxf
  | some m => rw [lnMargCol_of_some dV hm]; rfl

theorem marginals_isFin (s : Store ℝ) (h : ∀ col ∈ s.lnCols, col.any isFin = true) :
    ∀ x ∈ marginals s, isFin x = true := by
  refine List.forall_mem_map.2 fun col hc => ?_
  split
  · simpa using h _ hc
  · exact lnMargCol_isFin (h col hc) _

theorem lnNormalise_isFin (xs : List (LogP ℝ)) (dV : ℝ) (h : ∀ x ∈ xs, isFin x = true) :
    ∀ y ∈ lnNormalise xs dV, isFin y = true := by
  obtain ⟨n, hn⟩ := lnNormalise_eq_map_subC xs dV
  rw [hn]
  exact List.forall_mem_map.2 fun x hx => (isFin_subC x n).trans (h x hx)

section selectBy
variable {β γ : Type}

@[simp] theorem selectBy_nil_left (keep : List Bool) : selectBy ([] : List β) keep = [] := rfl

@[simp] theorem selectBy_nil_right (l : List β) : selectBy l [] = [] := by
  cases l <;> rfl

@[simp] theorem selectBy_cons_true (x : β) (l : List β) (keep : List Bool) :
    selectBy (x :: l) (true :: keep) = x :: selectBy l keep := rfl

@[simp] theorem selectBy_cons_false (x : β) (l : List β) (keep : List Bool) :
    selectBy (x :: l) (false :: keep) = selectBy l keep := rfl

theorem selectBy_eq_self (l : List β) (keep : List Bool) (hlen : l.length = keep.length)
    (h : ∀ b ∈ keep, b = true) : selectBy l keep = l := by
  rw [selectBy, List.filterMap_congr (g := fun p => some p.1) fun p hp =>
    if_pos (h _ (List.of_mem_zip hp).2), List.filterMap_eq_map', List.map_fst_zip hlen.le]

theorem selectBy_zip (l₁ : List β) (l₂ : List γ) (keep : List Bool) :
    selectBy (List.zip l₁ l₂) keep = List.zip (selectBy l₁ keep) (selectBy l₂ keep) := by
  induction keep generalizing l₁ l₂ with
  | nil => simp
  | cons b bs ih =>
    cases l₁ with
    | nil => simp
    | cons x xs =>
      cases l₂ with
      | nil => simp
      | cons y ys => cases b <;> simp [ih]

end selectBy

theorem keepIdx_no_discard (ln : List (LogP ℝ)) : keepIdx ln 0 0 = ln.map isFin := by
  simp [keepIdx]

theorem gtb_fin_fin (a b : ℝ) : gtb (fin a) (fin b) = decide (b < a) := rfl
theorem gtb_negInf (y : LogP ℝ) : gtb (negInf : LogP ℝ) y = false := rfl

theorem output_of_ne (s : Store ℝ) (discard nS : ℝ) (h : marginals s ≠ []) :
    output s discard nS = some
      { toks := selectBy (s.cols.take s.i)
          (keepIdx (lnNormalise (marginals s) (c 1)) discard nS),
        probability := (selectBy (lnNormalise (marginals s) (c 1))
          (keepIdx (lnNormalise (marginals s) (c 1)) discard nS)).map expF,
        lnPdf := selectBy (marginals s) (keepIdx (lnNormalise (marginals s) (c 1)) discard nS),
        sf := selectBy s.sf (keepIdx (lnNormalise (marginals s) (c 1)) discard nS) } := by
  unfold output
  exact if_neg (by simpa using h)

theorem output_of_nil (s : Store ℝ) (discard nS : ℝ) (h : s.lnCols = []) :
    output s discard nS = none := by
  unfold output marginals; rw [h]; rfl

/-! ### the iteration limit -/

theorem lt_runIteration_iff (maxS : Nat) (n : Nat) (bs : List Nat) (j : Nat) (hj : j + 1 < bs.length) :
    j + 1 < runIteration maxS n bs ↔ n + (bs.take (j + 1)).sum < maxS := by
  induction bs generalizing n j with
  | nil => exact absurd hj (Nat.not_lt_zero _)
  | cons b bs ih =>
    rw [runIteration, List.take_succ_cons, List.sum_cons]
    split
    · omega
    · cases j with
      | zero =>
        cases bs with
        | nil => exact absurd hj (Nat.lt_irrefl _)
        | cons b' bs' =>
          rw [runIteration, List.take_zero, List.sum_nil]
          split <;> omega
      | succ j' =>
        have := ih (n + b) j' (Nat.lt_of_succ_lt_succ hj)
        omega

theorem runIteration_le_length (maxS n : Nat) (bs : List Nat) : runIteration maxS n bs ≤ bs.length := by
  induction bs generalizing n with
  | nil => exact Nat.le_refl _
  | cons b bs ih =>
    rw [runIteration, List.length_cons]
    split
    · exact Nat.succ_le_succ (Nat.zero_le _)
    · have := ih (n + b); omega

end SampleStore
end MTfitVerif
