import MTfitVerif.Model.Convert
import MTfitVerif.Real.Inst
/-
  Angles over ℝ: the square roots of 2, 3, 6 that the conversions carry, `mod2pi` (`np.mod(·, 2π)`) as a
  fractional part, `atan2` (the argument of `x + iy`) — ranges, polar form, scaling, sine and cosine — and
  `arccos`, `arctan` on the sides of a right triangle.
-/
namespace MTfitVerif.Convert
open Real

theorem sqrt2_mul_self : (√2 : ℝ) * √2 = 2 := Real.mul_self_sqrt (by norm_num)
theorem one_div_sqrt2_mul_sqrt2 : 1 / √2 * √2 = (1 : ℝ) :=
  one_div_mul_cancel (Real.sqrt_ne_zero'.mpr two_pos)
theorem sqrt3_mul_self : (√3 : ℝ) * √3 = 3 := Real.mul_self_sqrt (by norm_num)
theorem lune_sqrt6_mul_self : (√6 : ℝ) * √6 = 6 := Real.mul_self_sqrt (by norm_num)
theorem sqrt6_eq : (√6 : ℝ) = √2 * √3 := by
  rw [← Real.sqrt_mul (by norm_num)]; norm_num
theorem div_sqrt_sq (a : ℝ) {n : ℝ} (hn : 0 ≤ n) : (a / √n) ^ 2 = a ^ 2 / n := by
  rw [div_pow, Real.sq_sqrt hn]

theorem mod2pi_eq (x : ℝ) : mod2pi x = x - (⌊x / (2 * π)⌋ : ℝ) * (2 * π) := by
  simp only [mod2pi, flt_floor, flt_c, flt_pi, Nat.cast_ofNat]

theorem mod2pi_eq_fract (x : ℝ) : mod2pi x = Int.fract (x / (2 * π)) * (2 * π) := by
  rw [mod2pi_eq, Int.fract, sub_mul, div_mul_cancel₀ _ Real.two_pi_pos.ne']

theorem mod2pi_eq_toIcoMod (x : ℝ) : mod2pi x = toIcoMod Real.two_pi_pos 0 x := by
  rw [mod2pi_eq_fract, toIcoMod_eq_fract_mul]

theorem mod2pi_nonneg (x : ℝ) : 0 ≤ mod2pi x := by
  rw [mod2pi_eq_fract]; exact mul_nonneg (Int.fract_nonneg _) Real.two_pi_pos.le

theorem mod2pi_lt (x : ℝ) : mod2pi x < 2 * π := by
  rw [mod2pi_eq_fract]; exact mul_lt_of_lt_one_left Real.two_pi_pos (Int.fract_lt_one _)

theorem mod2pi_of_mem_period {x : ℝ} (n : ℤ) (h0 : n * (2 * π) ≤ x) (h1 : x < (n + 1) * (2 * π)) :
    mod2pi x = x - n * (2 * π) := by
  rw [mod2pi_eq, Int.floor_eq_iff.mpr
    ⟨(le_div_iff₀ Real.two_pi_pos).mpr h0, (div_lt_iff₀ Real.two_pi_pos).mpr h1⟩]

theorem mod2pi_of_mem {x : ℝ} (h0 : 0 ≤ x) (h1 : x < 2 * π) : mod2pi x = x := by
  rw [mod2pi_eq_toIcoMod]; exact (toIcoMod_eq_self _).mpr ⟨h0, h1.trans_eq (zero_add _).symm⟩

theorem mod2pi_of_neg {x : ℝ} (h0 : -(2 * π) ≤ x) (h1 : x < 0) : mod2pi x = x + 2 * π := by
  simpa using mod2pi_of_mem_period (-1) (by simpa using h0) (by simpa using h1)

theorem cos_mod2pi (x : ℝ) : cos (mod2pi x) = cos x := by
  rw [mod2pi_eq]; exact Real.cos_sub_int_mul_two_pi x _

theorem sin_mod2pi (x : ℝ) : sin (mod2pi x) = sin x := by
  rw [mod2pi_eq]; exact Real.sin_sub_int_mul_two_pi x _

theorem atan2_mem (y x : ℝ) : -π < atan2 y x ∧ atan2 y x ≤ π :=
  ⟨Complex.neg_pi_lt_arg _, Complex.arg_le_pi _⟩

theorem atan2_zero_zero : atan2 0 0 = 0 := by unfold atan2; exact Complex.arg_zero

theorem atan2_nonneg_iff (y x : ℝ) : 0 ≤ atan2 y x ↔ 0 ≤ y := by
  unfold atan2; exact Complex.arg_nonneg_iff

theorem abs_atan2_le_iff (y x : ℝ) : |atan2 y x| ≤ π / 2 ↔ 0 ≤ x := by
  unfold atan2; exact Complex.abs_arg_le_pi_div_two_iff

theorem atan2_quadrant {a b : ℝ} (ha : 0 ≤ a) (hb : 0 ≤ b) : 0 ≤ atan2 a b ∧ atan2 a b ≤ π / 2 :=
  ⟨(atan2_nonneg_iff a b).mpr ha, (le_abs_self _).trans ((abs_atan2_le_iff a b).mpr hb)⟩

theorem atan2_polar_eq_toIocMod {r : ℝ} (hr : 0 < r) (θ : ℝ) :
    atan2 (r * sin θ) (r * cos θ) = toIocMod Real.two_pi_pos (-π) θ := by
  have e : (⟨r * cos θ, r * sin θ⟩ : ℂ) = (r : ℂ) * (Complex.cos θ + Complex.sin θ * Complex.I) := by
    apply Complex.ext <;> simp [Complex.cos_ofReal_re, Complex.sin_ofReal_re]
  rw [atan2, e, Complex.arg_mul_cos_add_sin_mul_I_eq_toIocMod hr]

theorem atan2_polar {r θ : ℝ} (hr : 0 < r) (hθ : θ ∈ Set.Ioc (-π) π) : atan2 (r * sin θ) (r * cos θ) = θ :=
  (atan2_polar_eq_toIocMod hr θ).trans ((toIocMod_eq_self _).mpr ⟨hθ.1, hθ.2.trans_eq (by ring)⟩)

theorem mod2pi_atan2_polar {r : ℝ} (hr : 0 < r) (θ : ℝ) : mod2pi (atan2 (r * sin θ) (r * cos θ)) = mod2pi θ := by
  rw [atan2_polar_eq_toIocMod hr, mod2pi_eq_toIcoMod, toIcoMod_toIocMod, ← mod2pi_eq_toIcoMod]

theorem atan2_scale (y x : ℝ) {k : ℝ} (hk : 0 < k) : atan2 (k * y) (k * x) = atan2 y x := by
  unfold atan2
  have : (⟨k * x, k * y⟩ : ℂ) = (k : ℂ) * ⟨x, y⟩ := by
    apply Complex.ext <;> simp
  rw [this, Complex.arg_real_mul _ hk]

theorem atan2_eq_arctan {a b : ℝ} (hb : 0 < b) : atan2 a b = arctan (a / b) := by
  unfold atan2
  have h := (Complex.abs_arg_lt_pi_div_two_iff (z := ⟨b, a⟩)).mpr (Or.inl hb)
  have ht := Complex.tan_arg ⟨b, a⟩
  simp only at ht
  rw [← ht, Real.arctan_tan (abs_lt.mp h).1 (abs_lt.mp h).2]

theorem abs_atan2_le_pi_div_six {a c : ℝ} (hc : 0 < c) (hac : |a| ≤ c) : |atan2 a (√3 * c)| ≤ π / 6 := by
  have hb : 0 < √3 * c := mul_pos (by positivity) hc
  rw [atan2_eq_arctan hb, abs_le, ← Real.arctan_inv_sqrt_three, ← Real.arctan_neg, arctan_le_arctan_iff,
    arctan_le_arctan_iff, ← abs_le, abs_div, abs_of_pos hb, div_le_iff₀ hb, inv_mul_cancel_left₀ (by positivity)]
  exact hac

theorem norm_mk_of_hypot {x y ρ : ℝ} (hρ : 0 < ρ) (h : ρ ^ 2 = x ^ 2 + y ^ 2) : ‖(⟨x, y⟩ : ℂ)‖ = ρ := by
  rw [Complex.norm_def, Complex.normSq_mk, show x * x + y * y = ρ ^ 2 by rw [h]; ring,
    Real.sqrt_sq hρ.le]

theorem cos_atan2_of_hypot {x y ρ : ℝ} (hρ : 0 < ρ) (h : ρ ^ 2 = x ^ 2 + y ^ 2) :
    cos (atan2 y x) = x / ρ := by
  have hne : (⟨x, y⟩ : ℂ) ≠ 0 := norm_ne_zero_iff.mp ((norm_mk_of_hypot hρ h).trans_ne hρ.ne')
  unfold atan2
  rw [Complex.cos_arg hne, norm_mk_of_hypot hρ h]

theorem sin_atan2_of_hypot {x y ρ : ℝ} (hρ : 0 < ρ) (h : ρ ^ 2 = x ^ 2 + y ^ 2) :
    sin (atan2 y x) = y / ρ := by
  unfold atan2
  rw [Complex.sin_arg, norm_mk_of_hypot hρ h]

/-! ### `arccos`, `arctan`; right triangles with hypotenuse `S`, adjacent side `n`, opposite side `m ≥ 0` -/

theorem abs_pi_div_two_sub_arccos_le (x : ℝ) : |π / 2 - arccos x| ≤ π / 2 := by
  rw [← Real.arcsin_eq_pi_div_two_sub_arccos]
  exact abs_le.mpr ⟨Real.neg_pi_div_two_le_arcsin x, Real.arcsin_le_pi_div_two x⟩

theorem tan_arccos_of_hypot {n m S : ℝ} (hS : 0 < S) (hm : 0 ≤ m) (h : S ^ 2 = n ^ 2 + m ^ 2) :
    tan (arccos (n / S)) = m / n := by
  rw [tan_arccos, div_pow, h, one_sub_div (h ▸ (pow_pos hS 2).ne'), add_sub_cancel_left, ← h, ← div_pow,
    Real.sqrt_sq (div_nonneg hm hS.le), div_div_div_cancel_right₀ hS.ne']

theorem sin_arctan_of_hypot {y R : ℝ} (hR : 0 < R) (h : R ^ 2 = 1 + y ^ 2) : sin (arctan y) = y / R := by
  rw [sin_arctan, ← h, Real.sqrt_sq hR.le]

end MTfitVerif.Convert
