import MTfitVerif.Real.V3Lemmas
/-
  Six-vector and lune coordinates over ℝ.  `gdToE γ δ` is an orthogonal matrix (entries over `√6`)
  applied to the unit vector `(cos γ cos δ, sin γ cos δ, sin δ)`: the differences of its components give the
  ordering, the three linear forms that `eToGd` reads give the vector back.  `eToGd` by its two equations
  (isotropic triple or not); it sees only the sorted triple and ignores a positive factor.
-/
namespace MTfitVerif.Convert
open Real

/-- six-vector of a tensor before normalisation -/
noncomputable def lune_raw6 (m : Sym3 ℝ) : V6 ℝ := ⟨m.xx, m.yy, m.zz, √2 * m.xy, √2 * m.xz, √2 * m.yz⟩

theorem lune_raw6_norm (m : Sym3 ℝ) : (lune_raw6 m).norm = √(C12.frob2 m) := by
  simp only [V6.norm, lune_raw6, flt_sqrt, C12.frob2]
  congr 1
  linear_combination (m.xy ^ 2 + m.xz ^ 2 + m.yz ^ 2) * sqrt2_mul_self

theorem mt33ToMt6_eq (m : Sym3 ℝ) :
    mt33ToMt6 m = ⟨m.xx / (lune_raw6 m).norm, m.yy / (lune_raw6 m).norm, m.zz / (lune_raw6 m).norm,
      √2 * m.xy / (lune_raw6 m).norm, √2 * m.xz / (lune_raw6 m).norm, √2 * m.yz / (lune_raw6 m).norm⟩ := by
  simp only [mt33ToMt6, lune_raw6, flt_sqrt, flt_c, Nat.cast_ofNat]

theorem mt6ToMt33_eq (v : V6 ℝ) :
    mt6ToMt33 v = ⟨v.a, v.b, v.c, 1 / √2 * v.d, 1 / √2 * v.e, 1 / √2 * v.f⟩ := by
  simp only [mt6ToMt33, flt_sqrt, flt_c, Nat.cast_ofNat, Nat.cast_one]

theorem one_div_sqrt2_mul_cancel_left (x : ℝ) : 1 / √2 * (√2 * x) = x := by
  rw [← mul_assoc, one_div_sqrt2_mul_sqrt2, one_mul]

theorem sqrt2_mul_one_div_cancel_left (x : ℝ) : √2 * (1 / √2 * x) = x := by
  rw [one_div, mul_inv_cancel_left₀ (by positivity)]

theorem mt33ToMt6_of_norm_one {m : Sym3 ℝ} (h : (lune_raw6 m).norm = 1) : mt33ToMt6 m = lune_raw6 m := by
  rw [mt33ToMt6_eq, h]
  simp only [div_one, lune_raw6]

theorem mt33ToMt6_of_unit {m : Sym3 ℝ} (h : C12.frob2 m = 1) : mt33ToMt6 m = lune_raw6 m :=
  mt33ToMt6_of_norm_one (by rw [lune_raw6_norm, h, Real.sqrt_one])

theorem mt6ToMt33_lune_raw6 (m : Sym3 ℝ) : mt6ToMt33 (lune_raw6 m) = m := by
  rw [mt6ToMt33_eq]
  simp only [lune_raw6, one_div_sqrt2_mul_cancel_left]

theorem lune_raw6_mt6ToMt33 (v : V6 ℝ) : lune_raw6 (mt6ToMt33 v) = v := by
  rw [mt6ToMt33_eq]
  simp only [lune_raw6, sqrt2_mul_one_div_cancel_left]

/-- `GD_E` in the latitude `δ` itself (the code has the colatitude `β = π/2 − δ`), in the shape of the
    compiled kernel `Pyx.cconvert.cTape_MT6` -/
theorem gdToE_eq (γ δ : ℝ) : gdToE γ δ =
    ⟨(√3 * cos γ * cos δ - sin γ * cos δ + √2 * sin δ) / √6, (2 * sin γ * cos δ + √2 * sin δ) / √6,
     (-√3 * cos γ * cos δ - sin γ * cos δ + √2 * sin δ) / √6⟩ := by
  simp only [gdToE, flt_sqrt, flt_c, flt_pi, flt_sin, flt_cos, Nat.cast_ofNat, Nat.cast_one,
    Nat.cast_zero, Real.sin_pi_div_two_sub, Real.cos_pi_div_two_sub]
  congr 1 <;> ring

theorem gdToE_x_sub_y (γ δ : ℝ) :
    (gdToE γ δ).x - (gdToE γ δ).y = 2 * √3 / √6 * cos δ * sin (π / 6 - γ) := by
  rw [gdToE_eq, Real.sin_sub, Real.sin_pi_div_six, Real.cos_pi_div_six]
  linear_combination (cos δ * sin γ / √6) * sqrt3_mul_self

theorem gdToE_y_sub_z (γ δ : ℝ) :
    (gdToE γ δ).y - (gdToE γ δ).z = 2 * √3 / √6 * cos δ * sin (π / 6 + γ) := by
  rw [gdToE_eq, Real.sin_add, Real.sin_pi_div_six, Real.cos_pi_div_six]
  linear_combination (-(cos δ * sin γ / √6)) * sqrt3_mul_self

theorem gdToE_x_sub_z (γ δ : ℝ) :
    (gdToE γ δ).x - (gdToE γ δ).z = 2 * √3 / √6 * (cos γ * cos δ) := by
  rw [gdToE_eq]; ring

theorem gdToE_z_lt_x {γ δ : ℝ} (hγ : |γ| ≤ π / 6) (hδ : |δ| < π / 2) : (gdToE γ δ).z < (gdToE γ δ).x := by
  rw [← sub_pos, gdToE_x_sub_z]
  exact mul_pos (by positivity) (mul_pos
    (cos_pos_of_mem_Ioo (abs_lt.mp (hγ.trans_lt (by gcongr; norm_num)))) (cos_pos_of_mem_Ioo (abs_lt.mp hδ)))

theorem gdToE_lon_y (γ δ : ℝ) :
    -(gdToE γ δ).x + 2 * (gdToE γ δ).y - (gdToE γ δ).z = (6 / √6 * cos δ) * sin γ := by
  rw [gdToE_eq]; ring

theorem gdToE_lon_x (γ δ : ℝ) :
    √3 * ((gdToE γ δ).x - (gdToE γ δ).z) = (6 / √6 * cos δ) * cos γ := by
  rw [gdToE_eq]
  linear_combination (2 / √6 * (cos γ * cos δ)) * sqrt3_mul_self

theorem gdToE_sum (γ δ : ℝ) :
    (gdToE γ δ).x + (gdToE γ δ).y + (gdToE γ δ).z = √3 * sin δ := by
  rw [gdToE_eq, sqrt6_eq, ← add_div, ← add_div, div_eq_iff (by positivity)]
  linear_combination (-(√2 * sin δ)) * sqrt3_mul_self

theorem gdToE_of_cos_eq_zero (γ : ℝ) {δ : ℝ} (h : cos δ = 0) :
    gdToE γ δ = ⟨√2 * sin δ / √6, √2 * sin δ / √6, √2 * sin δ / √6⟩ := by
  rw [gdToE_eq, h]
  simp only [mul_zero, sub_zero, zero_add]

theorem sign_eq (x : ℝ) : sign x = if x < 0 then -1 else if 0 < x then 1 else 0 := by
  simp only [sign, flt_ltb, flt_c, decide_eq_true_eq, Nat.cast_zero, Nat.cast_one]

theorem sign_of_pos {x : ℝ} (h : 0 < x) : sign x = 1 := by rw [sign_eq, if_neg h.not_gt, if_pos h]

theorem sign_of_neg {x : ℝ} (h : x < 0) : sign x = -1 := by rw [sign_eq, if_pos h]

theorem abs_sign_le_one (x : ℝ) : |sign x| ≤ 1 := by
  rw [sign_eq]; split_ifs <;> simp

theorem mul_neg_iff_of_pos_left {k x : ℝ} (hk : 0 < k) : k * x < 0 ↔ x < 0 := smul_neg_iff_of_pos_left hk

theorem sign_scale (x : ℝ) {k : ℝ} (hk : 0 < k) : sign (k * x) = sign x := by
  simp only [sign_eq, mul_neg_iff_of_pos_left hk, mul_pos_iff_of_pos_left hk]

theorem eToGd_of_eq (e : V3 ℝ) (h : e.x = e.y ∧ e.y = e.z) :
    eToGd e = (0, sign e.x * π / 2) := by
  simp only [eToGd, flt_eqb, h.1, h.2, decide_true, Bool.and_self, if_true, flt_c, flt_pi, Nat.cast_zero, Nat.cast_ofNat]

theorem eToGd_of_ne (e : V3 ℝ) (h : ¬(e.x = e.y ∧ e.y = e.z)) :
    eToGd e = (atan2 (-(sort3 e).x + 2 * (sort3 e).y - (sort3 e).z) (√3 * ((sort3 e).x - (sort3 e).z)),
      π / 2 - arccos (((sort3 e).x + (sort3 e).y + (sort3 e).z) /
        (√3 * √((sort3 e).x * (sort3 e).x + (sort3 e).y * (sort3 e).y + (sort3 e).z * (sort3 e).z)))) := by
  simp only [eToGd, flt_eqb, Bool.and_eq_true, decide_eq_true_eq, h, if_false, flt_atan2, flt_sqrt, flt_c, flt_pi,
    flt_acos, Nat.cast_ofNat]

theorem eToGd_sort3 (e : V3 ℝ) : eToGd (sort3 e) = eToGd e := by
  by_cases h : e.x = e.y ∧ e.y = e.z
  · rw [sort3_of_sorted e h.2.ge h.1.ge]
  · obtain ⟨s1, s2, -⟩ := sort3_spec e
    rw [eToGd_of_ne e h, eToGd_of_ne _ fun q => h (sort3_ends_eq e (q.1.trans q.2)), sort3_of_sorted _ s1 s2]

theorem eToGd_congr {e e' : V3 ℝ} (hp : [e.x, e.y, e.z].Perm [e'.x, e'.y, e'.z]) : eToGd e = eToGd e' := by
  rw [← eToGd_sort3 e, sort3_congr hp, eToGd_sort3]

theorem eToGd_scale (e : V3 ℝ) {k : ℝ} (hk : 0 < k) : eToGd (V3.smul k e) = eToGd e := by
  by_cases h : e.x = e.y ∧ e.y = e.z
  · rw [eToGd_of_eq e h, eToGd_of_eq _ ⟨congrArg (k * ·) h.1, congrArg (k * ·) h.2⟩]
    exact congrArg (fun s => (0, s * π / 2)) (sign_scale e.x hk)
  · have h' : ¬((V3.smul k e).x = (V3.smul k e).y ∧ (V3.smul k e).y = (V3.smul k e).z) :=
      fun q => h ⟨mul_left_cancel₀ hk.ne' q.1, mul_left_cancel₀ hk.ne' q.2⟩
    have hn := V3.norm_smul hk.le (sort3 e)
    simp only [V3.norm_eq, V3.dot, V3.smul] at hn
    rw [eToGd_of_ne _ h', eToGd_of_ne e h, sort3_scale e hk.le]
    simp only [V3.smul]
    rw [hn, show -(k * (sort3 e).x) + 2 * (k * (sort3 e).y) - k * (sort3 e).z
        = k * (-(sort3 e).x + 2 * (sort3 e).y - (sort3 e).z) by ring, ← mul_sub, mul_left_comm √3,
      atan2_scale _ _ hk, ← mul_add, ← mul_add, mul_left_comm √3, mul_div_mul_left _ _ hk.ne']

end MTfitVerif.Convert
