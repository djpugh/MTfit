import MTfitVerif.Model.PyxKernels
import MTfitVerif.Model.Convert
import MTfitVerif.Model.MultiEvent
import MTfitVerif.Real.AcceptanceLemmas
/-
  Helper lemmas for C20 (scalar kernels of the compiled extensions, `Model/PyxKernels.lean`): literals, the Gaussian CDF, the
  transition densities of the Python path with the compiled normaliser kernels as their last factor, the Beta kernel of the
  uniform prior, the compiled amplitude-ratio kernel as Hinkley's ratio density at `±z` for signed means, and the scale estimate.

  The proofs unfold the generated definitions but never refer to the generated local names.
-/
namespace MTfitVerif

namespace PyxLemmas
open Real

theorem sci_5_1 : (sci 5 1 : ℝ) = 1 / 2 := by
  simp only [flt_sci]; norm_num

theorem gaussian_cdf_eq_gaussCdf (x μ s : ℝ) :
    Pyx.cmcmc.gaussian_cdf x μ s = Acceptance.gaussCdf x μ s := by
  rw [Acceptance.gaussCdf_eq]
  simp only [Pyx.cmcmc.gaussian_cdf, sci_5_1, flt_c, flt_sqrt, flt_erf, Nat.cast_one, Nat.cast_ofNat,
    div_div]

/-! ### transition densities: symmetric Gaussian factors times the compiled normaliser kernel at the old state -/

/-- double-couple transition density (the first two arguments of the kernel are not read) -/
theorem transPdf_true_eq (w : Acceptance.Widths ℝ) (x x1 : Acceptance.Tape ℝ) (a b : ℝ) :
    Acceptance.transPdf true w x x1 =
      Acceptance.gaussPdf x.h x1.h w.h * Acceptance.gaussPdf x.sigma x1.sigma w.sigma *
        Pyx.cmcmc.gaussian_transition_dc a b x1.h w.h x1.sigma w.sigma := by
  rw [Acceptance.transPdf_true]
  simp only [Acceptance.truncTerm, Pyx.cmcmc.gaussian_transition_dc, gaussian_cdf_eq_gaussCdf, flt_c, flt_pi, Nat.cast_one,
    Nat.cast_ofNat, Nat.cast_zero, neg_div]
  rw [div_mul_div_comm, mul_one_div]

/-- full-tensor transition density (the first four arguments of the kernel are not read) -/
theorem transPdf_false_eq (w : Acceptance.Widths ℝ) (x x1 : Acceptance.Tape ℝ) (a b c d : ℝ) :
    Acceptance.transPdf false w x x1 =
      Acceptance.gaussPdf x.gamma x1.gamma w.gamma * Acceptance.gaussPdf x.delta x1.delta w.delta *
      (Acceptance.gaussPdf x.h x1.h w.h * Acceptance.gaussPdf x.sigma x1.sigma w.sigma) *
        Pyx.cmcmc.gaussian_transition_mt a b c d x1.gamma w.gamma x1.delta w.delta x1.h w.h x1.sigma w.sigma := by
  rw [Acceptance.transPdf_false, mul_assoc, ← Acceptance.transPdf_true, transPdf_true_eq w x x1 c d]
  simp only [Acceptance.truncTerm, Pyx.cmcmc.gaussian_transition_mt, gaussian_cdf_eq_gaussCdf, flt_c, flt_pi, Nat.cast_ofNat,
    neg_div]
  rw [div_mul_div_comm, div_mul_eq_mul_div, ← mul_div_assoc, ← mul_assoc]

/-! ### the uniform (on the sphere) prior -/

theorem k_ND_ne_zero : (Pyx.cmcmc.k_ND : ℝ) ≠ 0 := by
  simp only [Pyx.cmcmc.k_ND, flt_sci]; norm_num

/-- the kernel of the Beta(b,b) density, `b = 5.745` -/
noncomputable def betaKer (u : ℝ) : ℝ :=
  Real.exp (((sci 5745 3 : ℝ) - 1) * (Real.log u + Real.log (1 - u)))

theorem lune_u_mem {δ : ℝ} (hd : -(π / 2) < δ ∧ δ < π / 2) :
    0 < (δ + π / 2) / π ∧ (δ + π / 2) / π < 1 :=
  ⟨div_pos (neg_lt_iff_pos_add.1 hd.1) pi_pos,
    (div_lt_one pi_pos).2 ((add_lt_add_left hd.2 _).trans_eq (add_halves π))⟩

theorem uniform_delta_dist_eq {δ : ℝ} (hd : -(π / 2) < δ ∧ δ < π / 2) :
    Pyx.cmcmc.uniform_delta_dist δ = Pyx.cmcmc.k_ND / π * betaKer ((δ + π / 2) / π) := by
  obtain ⟨h0, h1⟩ := lune_u_mem hd
  simp only [Pyx.cmcmc.uniform_delta_dist, betaKer, flt_c, flt_pi, flt_exp, flt_log, Nat.cast_one, Nat.cast_ofNat]
  rw [Real.log_mul h0.ne' (sub_pos.2 h1).ne', mul_div_right_comm]

theorem betaPdf_eq {u : ℝ} (h0 : 0 < u) (h1 : u < 1) :
    Acceptance.betaPdf u = betaKer u * Real.exp (sci 7551183110261967 15 : ℝ) := by
  simp only [Acceptance.betaPdf, betaKer, flt_c, flt_leb, flt_exp, flt_log, Nat.cast_one, Nat.cast_zero,
    Bool.or_eq_true, decide_eq_true_eq, not_le.mpr h0, not_le.mpr h1, or_self, if_false, sub_neg_eq_add,
    Real.exp_add]

theorem uniformPrior_false_eq (x : Acceptance.Tape ℝ) (hd : -(π / 2) < x.delta ∧ x.delta < π / 2) :
    Acceptance.uniformPrior false x =
      ((sci 15 1 : ℝ) * Real.exp (sci 7551183110261967 15 : ℝ) * (sci 110452194071529090000 20 : ℝ) / π) *
        (Real.cos (3 * x.gamma) * betaKer ((x.delta + π / 2) / π)) := by
  obtain ⟨h0, h1⟩ := lune_u_mem hd
  simp only [Acceptance.uniformPrior, Bool.false_eq_true, if_false, flt_c, flt_pi, flt_cos, Nat.cast_one,
    Nat.cast_ofNat, betaPdf_eq h0 h1]
  ring

theorem uniformPrior_const_ne_zero :
    (sci 15 1 : ℝ) * Real.exp (sci 7551183110261967 15 : ℝ) * (sci 110452194071529090000 20 : ℝ) / π ≠ 0 := by
  simp only [flt_sci]
  positivity

/-! ### the amplitude-ratio kernel -/

/-- the compiled amplitude-ratio kernel (non-negative `psy`: the cut-off branch is not taken) is the sum of the ratio
    density at `±z` for the SIGNED modelled amplitudes -/
theorem ar_pdf_eq_ratioPdf (z μx μy px py : ℝ) (hpy : 0 ≤ py) :
    Pyx.cprobability.ar_pdf z μx μy px py =
      RatioPdf.ratioPdf z μx μy (px * |μx|) (py * |μy|) + RatioPdf.ratioPdf (-z) μx μy (px * |μx|) (py * |μy|) := by
  rw [RatioPdf.ratioPdf_eq_erf, RatioPdf.ratioPdf_eq_erf, RatioPdf.coefA_neg]
  simp only [Pyx.cprobability.ar_pdf, Pyx.cprobability.k_cutoff, flt_ltb, flt_c, flt_sqrt, flt_pi, flt_abs,
    flt_exp, flt_erf, sci_5_1, Nat.cast_zero, Nat.cast_one, Nat.cast_ofNat, not_lt.mpr hpy, decide_false,
    Bool.false_eq_true, if_false, RatioPdf.coefA_eq, RatioPdf.coefB_eq, RatioPdf.coefC_eq, sqrt_two_pi,
    neg_mul_comm μx z]
  ring

/-! ### the scale estimate -/

/-- mean and standard deviation of `scale_estimator` from the normaliser `N` and the numerators `Y`, `X`: the kernel divides `Y`
    by `m * N` at once, the model has `Y' = Y / m` and divides by `N` -/
theorem scale_mu_s_congr {Y Y' X X' N N' m : ℝ} (hN : N = N') (hY : Y / m = Y') (hX : X = X') :
    (Y / (m * N), √(X / N - Y / (m * N) * (Y / (m * N)))) = (Y' / N', √(X' / N' - Y' / N' * (Y' / N'))) := by
  subst hN hY hX
  rw [div_mul_eq_div_div]

/-- the per-station scale estimate, for all arguments (the two output-pointer arguments `a`, `b` are not read) -/
theorem estimate_scale_mu_s_eq (x y μx μy px py a b : ℝ) :
    Pyx.cprobability.estimate_scale_mu_s x y μx μy px py a b = MultiEvent.stationScale |x / y| |μx| |μy| px py := by
  have hexp (u v : ℝ) : -u * u / (2 * v) = -(1 / 2) * (u * u / v) := by ring
  simp only [Pyx.cprobability.estimate_scale_mu_s, MultiEvent.stationScale, flt_abs, flt_sqrt, flt_exp, flt_pi,
    flt_c, flt_half, Nat.cast_ofNat, Real.sqrt_div (show (0 : ℝ) ≤ 2 by norm_num) Real.pi, hexp]
  -- kernel and model compute the same normaliser and, up to the factor `|μx|³` of the mean, the same numerators: three field
  -- identities without side conditions
  exact scale_mu_s_congr (by ring1) (by ring1) (by ring1)

end PyxLemmas
end MTfitVerif
