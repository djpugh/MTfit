import MTfitVerif.Model.Proposal
import MTfitVerif.Real.AngleLemmas
/-
  Helper lemmas for C06 (Markov-chain proposals and width adaptation): the range predicates at
  `ℝ`, the redraw loop `firstOk` and its set `okSet` of in-range draws, the samplers as chains of
  named stages, and the width-adaptation step split into named stages.
-/
namespace MTfitVerif.Proposal
open Acceptance Real

theorem leb_iff {a b : ℝ} : Flt.leb a b = true ↔ a ≤ b := decide_eq_true_iff

theorem absLe_iff (b x : ℝ) : absLe b x = true ↔ |x| ≤ b := by
  simp [absLe, not_lt]

theorem absLe_iff_Icc (b x : ℝ) : absLe b x = true ↔ -b ≤ x ∧ x ≤ b := by
  rw [absLe_iff, abs_le]

theorem inUnit_iff (x : ℝ) : inUnit x = true ↔ 0 ≤ x ∧ x ≤ 1 := by
  simp only [inUnit, flt_ltb, flt_c, Nat.cast_one, Nat.cast_zero, Bool.and_eq_true,
    Bool.not_eq_true', decide_eq_false_iff_not, not_lt]
  exact and_comm

theorem pi_div_six_nonneg : (0 : ℝ) ≤ π / 6 := div_nonneg pi_pos.le (by norm_num)

theorem firstOk_cons_of_ok (ok : ℝ → Bool) (m s z : ℝ) (zs : List ℝ) (h : ok (m + s * z) = true) :
    firstOk ok m s (z :: zs) = some (m + s * z, zs) :=
  if_pos h

theorem firstOk_cons_of_not (ok : ℝ → Bool) (m s z : ℝ) (zs : List ℝ) (h : ¬ ok (m + s * z) = true) :
    firstOk ok m s (z :: zs) = firstOk ok m s zs :=
  if_neg h

theorem firstOk_eq_none_iff (ok : ℝ → Bool) (m s : ℝ) (zs : List ℝ) :
    firstOk ok m s zs = none ↔ ∀ z ∈ zs, ¬ ok (m + s * z) = true := by
  induction zs with
  | nil => simp [firstOk]
  | cons z zs ih =>
    by_cases h : ok (m + s * z) = true
    · rw [firstOk_cons_of_ok ok m s z zs h]
      simp only [reduceCtorEq, List.mem_cons, forall_eq_or_imp, false_iff, not_and]
      intro h'; exact absurd h h'
    · rw [firstOk_cons_of_not ok m s z zs h, ih]
      simp only [List.mem_cons, forall_eq_or_imp]
      exact ⟨fun h' => ⟨h, h'⟩, fun h' => h'.2⟩

theorem firstOk_some {ok : ℝ → Bool} {m s : ℝ} {zs : List ℝ} {v : ℝ} {rest : List ℝ}
    (h : firstOk ok m s zs = some (v, rest)) :
    ∃ pre z, zs = pre ++ z :: rest ∧ v = m + s * z ∧ ok v = true ∧ ∀ y ∈ pre, ok (m + s * y) = false := by
  induction zs with
  | nil => cases h
  | cons z zs ih =>
    by_cases hz : ok (m + s * z) = true
    · rw [firstOk_cons_of_ok ok m s z zs hz, Option.some.injEq, Prod.mk.injEq] at h
      obtain ⟨rfl, rfl⟩ := h
      exact ⟨[], z, rfl, rfl, hz, fun _ hy => nomatch hy⟩
    · rw [firstOk_cons_of_not ok m s z zs hz] at h
      obtain ⟨pre, z', rfl, hv, hok, hpre⟩ := ih h
      refine ⟨z :: pre, z', rfl, hv, hok, fun y hy => ?_⟩
      rcases List.mem_cons.mp hy with rfl | hy
      · exact Bool.eq_false_iff.mpr hz
      · exact hpre y hy

theorem firstOk_ok {ok : ℝ → Bool} {m s : ℝ} {zs : List ℝ} {v : ℝ} {rest : List ℝ}
    (h : firstOk ok m s zs = some (v, rest)) : ok v = true := by
  obtain ⟨_, _, _, _, hok, _⟩ := firstOk_some h
  exact hok

theorem firstOk_absLe {b m s : ℝ} {zs : List ℝ} {v : ℝ} {rest : List ℝ}
    (h : firstOk (absLe b) m s zs = some (v, rest)) : |v| ≤ b :=
  (absLe_iff b v).mp (firstOk_ok h)

/-- the draws `z` whose candidate `m + s·z` is in range -/
def okSet (ok : ℝ → Bool) (m s : ℝ) : Set ℝ := {z | ok (m + s * z) = true}

theorem okSet_eq_preimage (ok : ℝ → Bool) (m s lo hi : ℝ)
    (hok : ∀ x, ok x = true ↔ lo ≤ x ∧ x ≤ hi) :
    okSet ok m s = (fun z => m + s * z) ⁻¹' Set.Icc lo hi :=
  Set.ext fun _ => hok _

theorem okSet_measurable' {ok : ℝ → Bool} (m s : ℝ) {lo hi : ℝ} (hok : ∀ x, ok x = true ↔ lo ≤ x ∧ x ≤ hi) :
    MeasurableSet (okSet ok m s) := by
  rw [okSet_eq_preimage ok m s lo hi hok]
  exact measurableSet_Icc.preimage (by fun_prop)

/-! ### the sampler pipelines as chains of stages -/

/-- the source-type stage of `shiftSample` -/
noncomputable def typeDraw (dc : Bool) (b m s : ℝ) (zs : List ℝ) : Option (ℝ × List ℝ) :=
  if dc then some (0, zs) else firstOk (absLe b) m s zs

theorem typeDraw_range {dc : Bool} {b m s : ℝ} {zs : List ℝ} {v : ℝ} {rest : List ℝ} (hb : 0 ≤ b)
    (h : typeDraw dc b m s zs = some (v, rest)) : |v| ≤ b := by
  cases dc
  · exact firstOk_absLe h
  · cases h
    rwa [abs_zero]

theorem typeDraw_dc {b m s : ℝ} {zs : List ℝ} {v : ℝ} {rest : List ℝ}
    (h : typeDraw true b m s zs = some (v, rest)) : v = 0 := by
  cases h; rfl

/-- the strike stage: one draw, no redraw -/
def drawOne (f : ℝ → ℝ) : List ℝ → Option (ℝ × List ℝ)
  | [] => none
  | z :: zs => some (f z, zs)

theorem drawOne_eq_some {f : ℝ → ℝ} {zs : List ℝ} {v : ℝ} {rest : List ℝ} :
    drawOne f zs = some (v, rest) ↔ ∃ z, zs = z :: rest ∧ v = f z := by
  cases zs with
  | nil => simp [drawOne]
  | cons z zs => simp [drawOne, and_comm, eq_comm]

private theorem pi_div_six : (Flt.pi / c 6 : ℝ) = π / 6 := by simp only [flt_pi, flt_c, Nat.cast_ofNat]
private theorem pi_div_two : (Flt.pi / c 2 : ℝ) = π / 2 := by simp only [flt_pi, flt_c, Nat.cast_ofNat]
private theorem c_zero : (c 0 : ℝ) = 0 := Nat.cast_zero

/-- Not `rfl`: the `match` on the stream in the model is a matcher over `α`; it agrees with `drawOne`
    after `cases`. -/
theorem shiftSample_eq (dc : Bool) (w : Widths ℝ) (ξ : Tape ℝ) (zs : List ℝ) :
    shiftSample dc w ξ zs =
      (typeDraw dc (π / 6) ξ.gamma w.gamma zs).bind fun p1 =>
      (typeDraw dc (π / 2) ξ.delta w.delta p1.2).bind fun p2 =>
      (drawOne (fun z => Convert.mod2pi (ξ.kappa + w.kappa * z)) p2.2).bind fun p3 =>
      (firstOk inUnit ξ.h w.h p3.2).bind fun p4 =>
      (firstOk (absLe (π / 2)) ξ.sigma w.sigma p4.2).bind fun p5 =>
        some ({ gamma := p1.1, delta := p2.1, kappa := p3.1, h := p4.1, sigma := p5.1 }, p5.2) := by
  rw [← pi_div_six, ← pi_div_two]
  cases dc
  · refine Option.bind_congr fun p1 _ => Option.bind_congr fun p2 _ => ?_
    obtain ⟨d, z2⟩ := p2
    cases z2 <;> rfl
  · unfold typeDraw
    rw [if_pos rfl, ← c_zero]
    cases zs <;> rfl

theorem bind_stage_eq_some {β γ : Type} {o : Option (β × List ℝ)} {k : β × List ℝ → Option γ} {r : γ} :
    o.bind k = some r ↔ ∃ v rest, o = some (v, rest) ∧ k (v, rest) = some r := by
  rw [Option.bind_eq_some_iff, Prod.exists]

theorem shiftSample_eq_some_iff {dc : Bool} {w : Widths ℝ} {ξ : Tape ℝ} {zs : List ℝ} {x : Tape ℝ}
    {rest : List ℝ} :
    shiftSample dc w ξ zs = some (x, rest) ↔
    ∃ g z1 d z z3 hh z4 s,
      typeDraw dc (π / 6) ξ.gamma w.gamma zs = some (g, z1) ∧
      typeDraw dc (π / 2) ξ.delta w.delta z1 = some (d, z :: z3) ∧
      firstOk inUnit ξ.h w.h z3 = some (hh, z4) ∧
      firstOk (absLe (π / 2)) ξ.sigma w.sigma z4 = some (s, rest) ∧
      x = { gamma := g, delta := d, kappa := Convert.mod2pi (ξ.kappa + w.kappa * z), h := hh, sigma := s } := by
  rw [shiftSample_eq]
  constructor
  · intro h
    obtain ⟨g, z1, h1, h⟩ := bind_stage_eq_some.mp h
    obtain ⟨d, z2, h2, h⟩ := bind_stage_eq_some.mp h
    obtain ⟨k, z3, h3, h⟩ := bind_stage_eq_some.mp h
    obtain ⟨hh, z4, h4, h⟩ := bind_stage_eq_some.mp h
    obtain ⟨s, z5, h5, h⟩ := bind_stage_eq_some.mp h
    obtain ⟨z, rfl, rfl⟩ := drawOne_eq_some.mp h3
    cases h
    exact ⟨g, z1, d, z, z3, hh, z4, s, h1, h2, h4, h5, rfl⟩
  · rintro ⟨g, z1, d, z, z3, hh, z4, s, h1, h2, h4, h5, rfl⟩
    rw [h1, Option.bind_some, h2, Option.bind_some, drawOne, Option.bind_some, h4, Option.bind_some, h5,
      Option.bind_some]

theorem jumpDraw_eq (w : Widths ℝ) (zs : List ℝ) :
    jumpDraw w zs =
      (firstOk (absLe (π / 6)) 0 w.gammaDc zs).bind fun p1 =>
      (firstOk (absLe (π / 2)) 0 w.deltaDc p1.2).bind fun p2 => some (p1.1, p2.1, p2.2) := by
  rw [← pi_div_six, ← pi_div_two, ← c_zero]
  rfl

section transD
variable {p : ℝ} {w : Widths ℝ} {ξ : Tape ℝ} {u : ℝ} {zs : List ℝ}

theorem transDSample_jump_down (hu : u ≤ p) :
    transDSample false p w ξ u zs = some ({ ξ with gamma := 0, delta := 0 }, true, zs) := by
  rw [transDSample, if_pos (leb_iff.mpr hu), if_neg Bool.false_ne_true, c_zero]

theorem transDSample_jump_up (hu : u ≤ p) :
    transDSample true p w ξ u zs =
      (jumpDraw w zs).map fun r => ({ ξ with gamma := r.1, delta := r.2.1 }, true, r.2.2) := by
  rw [transDSample, if_pos (leb_iff.mpr hu), if_pos rfl]
  cases jumpDraw w zs <;> rfl

theorem transDSample_no_jump (dc : Bool) (hu : ¬ u ≤ p) :
    transDSample dc p w ξ u zs = (shiftSample dc w ξ zs).map fun r => (r.1, false, r.2) := by
  rw [transDSample, if_neg (mt leb_iff.mp hu)]

theorem transDSample_some {dc : Bool} {x : Tape ℝ} {j : Bool} {rest : List ℝ}
    (h : transDSample dc p w ξ u zs = some (x, j, rest)) :
    (u ≤ p ∧ j = true ∧ dc = false ∧ x = { ξ with gamma := 0, delta := 0 }) ∨
    (u ≤ p ∧ j = true ∧ dc = true ∧
      ∃ g d, jumpDraw w zs = some (g, d, rest) ∧ x = { ξ with gamma := g, delta := d }) ∨
    (¬ u ≤ p ∧ j = false ∧ shiftSample dc w ξ zs = some (x, rest)) := by
  by_cases hu : u ≤ p
  · cases dc
    · rw [transDSample_jump_down hu, Option.some.injEq, Prod.mk.injEq, Prod.mk.injEq] at h
      exact Or.inl ⟨hu, h.2.1.symm, rfl, h.1.symm⟩
    · rw [transDSample_jump_up hu, Option.map_eq_some_iff] at h
      obtain ⟨⟨g, d, r⟩, hj, he⟩ := h
      rw [Prod.mk.injEq, Prod.mk.injEq] at he
      obtain ⟨rfl, rfl, rfl⟩ := he
      exact Or.inr (Or.inl ⟨hu, rfl, rfl, g, d, hj, rfl⟩)
  · rw [transDSample_no_jump dc hu, Option.map_eq_some_iff] at h
    obtain ⟨⟨x', r⟩, hsh, he⟩ := h
    rw [Prod.mk.injEq, Prod.mk.injEq] at he
    obtain ⟨rfl, rfl, rfl⟩ := he
    exact Or.inr (Or.inr ⟨hu, rfl, hsh⟩)

end transD

/-! ### width adaptation

  The stages below are the text of `modifyWidths` / `adaptStep` at `ℝ` (same `Flt` operations), so that
  the equations tying them to the model are by computation. -/

/-- the map applied to each `(key, width)` pair by `modifyWidths` -/
noncomputable def modOne (maxW : List (String × ℝ)) (ratio : ℝ) (kv : String × ℝ) : String × ℝ :=
  if isFixedKey kv.1 then (kv.1, kv.2)
  else
    match maxW.lookup kv.1 with
    | some m =>
      if Flt.ltb m (kv.2 * ratio) || !(Flt.ltb (c 0) (kv.2 * ratio)) then (kv.1, kv.2) else (kv.1, kv.2 * ratio)
    | none => if !(Flt.ltb (c 0) (kv.2 * ratio)) then (kv.1, kv.2) else (kv.1, kv.2 * ratio)

theorem modifyWidths_eq (maxW ws : List (String × ℝ)) (ratio : ℝ) :
    modifyWidths maxW ws ratio = ws.map (modOne maxW ratio) := by
  unfold modifyWidths modOne
  refine List.map_congr_left ?_
  rintro ⟨k, v⟩ _
  dsimp only
  cases List.lookup k maxW <;> rfl

theorem modOne_cases (maxW : List (String × ℝ)) (ratio : ℝ) (kv : String × ℝ) :
    modOne maxW ratio kv = kv ∨
    (isFixedKey kv.1 = false ∧ modOne maxW ratio kv = (kv.1, kv.2 * ratio) ∧ 0 < kv.2 * ratio ∧
      ∀ m, maxW.lookup kv.1 = some m → kv.2 * ratio ≤ m) := by
  unfold modOne
  split
  · exact Or.inl rfl
  · rename_i hfix
    simp only [flt_ltb, flt_c, Nat.cast_zero, Bool.or_eq_true, Bool.not_eq_true', decide_eq_true_eq,
      decide_eq_false_iff_not]
    split
    · rename_i m hm
      split
      · exact Or.inl rfl
      · rename_i h'
        refine Or.inr ⟨Bool.eq_false_iff.mpr hfix, rfl, not_not.mp (not_or.mp h').2, fun m' e => ?_⟩
        rw [hm, Option.some.injEq] at e
        exact e ▸ not_lt.mp (not_or.mp h').1
    · rename_i hm
      split
      · exact Or.inl rfl
      · rename_i h'
        exact Or.inr ⟨Bool.eq_false_iff.mpr hfix, rfl, not_not.mp h', fun m' e => by rw [hm] at e; cases e⟩

theorem modOne_of_not_pos (maxW : List (String × ℝ)) {ratio : ℝ} {kv : String × ℝ}
    (h : ¬ 0 < kv.2 * ratio) : modOne maxW ratio kv = kv := by
  rcases modOne_cases maxW ratio kv with h' | ⟨-, -, hp, -⟩
  · exact h'
  · exact absurd hp h

theorem modOne_fst (maxW : List (String × ℝ)) (ratio : ℝ) (kv : String × ℝ) :
    (modOne maxW ratio kv).1 = kv.1 := by
  rcases modOne_cases maxW ratio kv with h | ⟨-, h, -⟩ <;> rw [h]

theorem modOne_fixed (maxW : List (String × ℝ)) (ratio : ℝ) (kv : String × ℝ)
    (h : isFixedKey kv.1 = true) : modOne maxW ratio kv = kv := by
  rcases modOne_cases maxW ratio kv with h' | ⟨h', -⟩
  · exact h'
  · rw [h] at h'; cases h'

/-- the point of the `not newAlpha > 0` test: whatever the ratio (zero, negative, or a product that
    underflowed to 0), a positive width stays positive -/
theorem modOne_pos_any (maxW : List (String × ℝ)) (ratio : ℝ) (kv : String × ℝ)
    (h : 0 < kv.2) : 0 < (modOne maxW ratio kv).2 := by
  rcases modOne_cases maxW ratio kv with h' | ⟨-, h', hp, -⟩ <;> rw [h']
  exacts [h, hp]

theorem modOne_le (maxW : List (String × ℝ)) (ratio : ℝ) (kv : String × ℝ) (m : ℝ)
    (hm : maxW.lookup kv.1 = some m) (h : kv.2 ≤ m) : (modOne maxW ratio kv).2 ≤ m := by
  rcases modOne_cases maxW ratio kv with h' | ⟨-, h', -, hle⟩ <;> rw [h']
  exacts [h, hle m hm]

theorem sci_1_1_pos : (0 : ℝ) < sci 1 1 := by
  simp only [flt_sci]; norm_num

/-- revert to the stored widths and damp the stored ratio by `f`; with nothing stored, scale by `dflt`
    (`adaptStep` does this for a rate `≥ 1` with `√·`, `1/maxR` and for a rate `≤ 0` with `r ↦ r·r`, `0.1`) -/
noncomputable def revertTo (maxW : List (String × ℝ)) (s1 : AdaptState ℝ) (f : ℝ → ℝ) (dflt : ℝ) :
    AdaptState ℝ :=
  match s1.oldWidths, s1.oldRatio with
  | some ow, some r => { s1 with widths := modifyWidths maxW ow (f r), oldRatio := some (f r) }
  | _, _ => { s1 with widths := modifyWidths maxW s1.widths dflt }

/-- last stage of `adaptStep`: the new widths, from the state `s1` after an interior window was stored -/
noncomputable def adaptFinal (maxR : ℝ) (maxW : List (String × ℝ)) (s1 : AdaptState ℝ) (rate' ratio : ℝ) :
    AdaptState ℝ :=
  if Flt.leb (c 1) rate' then revertTo maxW s1 Flt.sqrt (c 1 / maxR)
  else if !(Flt.ltb (c 0) rate') then revertTo maxW s1 (fun r => r * r) (sci 1 1)
  else { s1 with widths := modifyWidths maxW s1.widths ratio }

theorem snd_ite_pos {c : Prop} [Decidable c] {a b : ℝ × ℝ} (ha : 0 < a.2) (hb : 0 < b.2) :
    0 < (if c then a else b).2 := by
  split <;> assumption

theorem fmax_sci_pos (a : ℝ) : 0 < fmax a (sci 1 1) := by
  rw [fmax_eq]; exact lt_max_of_lt_right sci_1_1_pos

/-- the three stages of `adaptStep`.  Of the first (the possibly overridden rate and the width ratio)
    only the sign of the ratio matters, of the second (an interior window is remembered) only which
    fields change; the third is `adaptFinal`. -/
theorem adaptStep_stages (minR maxR : ℝ) (maxW : List (String × ℝ)) (s : AdaptState ℝ) (rate : ℝ) :
    ∃ rate' ratio s1, 0 < ratio ∧
      (s1 = s ∨ s1 = { s with oldRate := rate', oldRatio := some ratio, oldWidths := some s.widths }) ∧
      adaptStep minR maxR maxW s rate = adaptFinal maxR maxW s1 rate' ratio := by
  unfold adaptStep
  dsimp only
  generalize hp : (if (Flt.ltb (c 0) rate && Flt.ltb rate (c 1)) = true then _ else (rate, c 1) : ℝ × ℝ) = p
  have hpos : 0 < p.2 := hp ▸ snd_ite_pos
    (snd_ite_pos (fmax_sci_pos _) (snd_ite_pos (fmax_sci_pos _) (fmax_sci_pos _))) (Nat.cast_pos.mpr Nat.one_pos)
  obtain ⟨rate', ratio⟩ := p
  dsimp only at hpos ⊢
  generalize hs1 : (if (Flt.ltb (c 0) rate' && Flt.ltb rate' (c 1)) = true then _ else s : AdaptState ℝ) = s1
  refine ⟨rate', ratio, s1, hpos, ?_, ?_⟩
  · rw [← hs1]
    split
    exacts [Or.inr rfl, Or.inl rfl]
  · unfold adaptFinal revertTo
    clear hs1
    obtain ⟨w, r, orat, ow⟩ := s1
    cases ow <;> cases orat <;> rfl

/-- what `adaptStep_ok` needs to know of the state `s2` made from the stored state `s1` -/
def FinalOk (maxW : List (String × ℝ)) (s1 s2 : AdaptState ℝ) : Prop :=
  s2.oldWidths = s1.oldWidths ∧ (∀ r, s2.oldRatio = some r → 0 < r) ∧
    ∃ ws0 r, 0 < r ∧ s2.widths = modifyWidths maxW ws0 r ∧ (ws0 = s1.widths ∨ s1.oldWidths = some ws0)

theorem revertTo_ok (maxW : List (String × ℝ)) (s1 : AdaptState ℝ) {f : ℝ → ℝ} {dflt : ℝ}
    (hf : ∀ r, 0 < r → 0 < f r) (hd : 0 < dflt) (hor : ∀ r, s1.oldRatio = some r → 0 < r) :
    FinalOk maxW s1 (revertTo maxW s1 f dflt) := by
  unfold revertTo
  split
  · rename_i ow r how hr
    have := hf r (hor r hr)
    exact ⟨rfl, fun r' h' => Option.some.inj h' ▸ this, ow, _, this, rfl, Or.inr how⟩
  · exact ⟨rfl, hor, _, _, hd, rfl, Or.inl rfl⟩

theorem adaptFinal_ok {maxR : ℝ} (hmaxR : 0 < maxR) (maxW : List (String × ℝ)) (s1 : AdaptState ℝ)
    (rate' : ℝ) {ratio : ℝ} (hratio : 0 < ratio) (hor : ∀ r, s1.oldRatio = some r → 0 < r) :
    FinalOk maxW s1 (adaptFinal maxR maxW s1 rate' ratio) := by
  unfold adaptFinal
  split
  · exact revertTo_ok maxW s1 (fun r => Real.sqrt_pos.mpr) (div_pos (Nat.cast_pos.mpr Nat.one_pos) hmaxR) hor
  · split
    · exact revertTo_ok maxW s1 (fun r hr => mul_pos hr hr) sci_1_1_pos hor
    · exact ⟨rfl, hor, _, _, hratio, rfl, Or.inl rfl⟩

end MTfitVerif.Proposal
