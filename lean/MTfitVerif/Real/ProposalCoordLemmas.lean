import MTfitVerif.Real.StepLawLemmas
import MTfitVerif.Real.ProposalLawLemmas
import MTfitVerif.Real.ProposalJointLemmas
import MTfitVerif.Real.StationaryModelLemmas
import Mathlib.MeasureTheory.Function.Floor
/-
  The proposal `shiftSample` on a stream of `n` standard-normal draws, in coordinates (`propOpt`), and
  its limit law `propLaw` (truncated normals × wrapped normal; point masses for a double couple).
  `shiftSample` and `jumpDraw` are chains of stages in the sense of `FactoredStage` (`prop_stage`,
  `jump_stage`), which gives the law on boxes (`box_law`); from there to all measurable sets
  (`propOpt_law`) by π-λ; `propLaw` has the density `transPdf`.
-/
namespace MTfitVerif.StepLaw
open MeasureTheory Set Proposal Acceptance Stationary ProbabilityTheory Real
open scoped ENNReal

/-! ### the laws of the strike and lune coordinates -/

/-- the strike draw -/
noncomputable def strikeFn (w : Widths ℝ) (ξ : Tape ℝ) : ℝ → ℝ :=
  fun z => Convert.mod2pi (ξ.kappa + w.kappa * z)

theorem measurable_strikeFn (w : Widths ℝ) (ξ : Tape ℝ) : Measurable (strikeFn w ξ) := by
  unfold strikeFn
  simp only [Convert.mod2pi_eq_fract]
  exact (Measurable.fract (by fun_prop)).mul_const _

/-- the law of the strike draw (a wrapped normal about the current strike) -/
noncomputable def strikeLaw (w : Widths ℝ) (ξ : Tape ℝ) : Measure ℝ :=
  (gaussianReal 0 1).map (strikeFn w ξ)

instance (w : Widths ℝ) (ξ : Tape ℝ) : IsProbabilityMeasure (strikeLaw w ξ) :=
  Measure.isProbabilityMeasure_map (measurable_strikeFn w ξ).aemeasurable

/-- the law of a lune coordinate of the proposal: truncated normal for the full moment tensor,
    the point mass at 0 for a double-couple-constrained chain -/
noncomputable def luneLaw (dc : Bool) (m s r : ℝ) : Measure ℝ :=
  (luneMeasure dc r).withDensity fun x => ENNReal.ofReal (luneFactor dc x m s r)

instance (dc : Bool) (m s r : ℝ) : SFinite (luneLaw dc m s r) := by
  unfold luneLaw; infer_instance

theorem luneLaw_false (m s r : ℝ) : luneLaw false m s r = truncLaw m s (-r) r := rfl

theorem luneLaw_true (m s r : ℝ) : luneLaw true m s r = Measure.dirac 0 := by
  simp only [luneLaw, luneMeasure, luneFactor, if_true, ENNReal.ofReal_one]
  exact withDensity_one

theorem luneLaw_prob (dc : Bool) (m : ℝ) {s r : ℝ} (hs : 0 < s) (hr : 0 < r) :
    IsProbabilityMeasure (luneLaw dc m s r) :=
  ⟨by rw [luneLaw, withDensity_apply _ .univ, setLIntegral_univ, (pDens_luneFactor dc m hs hr).2]⟩

/-! ### the proposal in coordinates and its limit law -/

/-- coordinates of a state -/
def coordOf (x : Tape ℝ) : Coord := (x.gamma, x.delta, x.kappa, x.h, x.sigma)

@[simp] theorem toTape_coordOf (x : Tape ℝ) : toTape (coordOf x) = x := rfl
@[simp] theorem coordOf_toTape (p : Coord) : coordOf (toTape p) = p := rfl

/-- the proposal of `shiftSample` on a stream of `n` draws, in coordinates (`none`: the stream was
    exhausted) -/
noncomputable def propOpt (dc : Bool) (w : Widths ℝ) (ξ : Tape ℝ) (n : ℕ) (ω : Fin n → ℝ) :
    Option Coord :=
  (shiftSample dc w ξ (List.ofFn ω)).map fun p => coordOf p.1

/-- the law of a proposal (in the limit of a long stream): the product of the truncated-normal
    laws of the lune coordinates, `h`, `σ` and of the wrapped-normal law of the strike -/
noncomputable def propLaw (dc : Bool) (w : Widths ℝ) (ξ : Tape ℝ) : Measure Coord :=
  (luneLaw dc ξ.gamma w.gamma (π / 6)).prod ((luneLaw dc ξ.delta w.delta (π / 2)).prod
    ((strikeLaw w ξ).prod ((truncLaw ξ.h w.h 0 1).prod
      (truncLaw ξ.sigma w.sigma (-(π / 2)) (π / 2)))))

theorem propLaw_prob (dc : Bool) (w : Widths ℝ) (ξ : Tape ℝ)
    (hw : 0 < w.gamma ∧ 0 < w.delta ∧ 0 < w.h ∧ 0 < w.sigma) :
    IsProbabilityMeasure (propLaw dc w ξ) := by
  have := luneLaw_prob dc ξ.gamma hw.1 pi_div_six_pos
  have := luneLaw_prob dc ξ.delta hw.2.1 pi_div_two_pos
  have := truncLaw_prob ξ.h hw.2.2.1 one_pos
  have := truncLaw_prob ξ.sigma hw.2.2.2 neg_pi_div_two_lt
  unfold propLaw
  infer_instance

theorem propLaw_box (dc : Bool) (w : Widths ℝ) (ξ : Tape ℝ) (B1 B2 B3 B4 B5 : Set ℝ) :
    propLaw dc w ξ (B1 ×ˢ (B2 ×ˢ (B3 ×ˢ (B4 ×ˢ B5)))) =
      luneLaw dc ξ.gamma w.gamma (π / 6) B1 * (luneLaw dc ξ.delta w.delta (π / 2) B2 *
        (strikeLaw w ξ B3 * (truncLaw ξ.h w.h 0 1 B4 *
          truncLaw ξ.sigma w.sigma (-(π / 2)) (π / 2) B5))) := by
  simp only [propLaw, Measure.prod_prod]

/-! ### chains of stages -/

/-- probability that the `h` and `σ` loops (after the strike draw) both succeed within `n` draws -/
noncomputable def cTrue (w : Widths ℝ) (ξ : Tape ℝ) : ℕ → ℝ≥0∞ :=
  shiftSeq 1 (loopSeq (gaussianReal 0 1) inUnit ξ.h w.h
    (loopSeq (gaussianReal 0 1) (absLe (π / 2)) ξ.sigma w.sigma fun _ => 1))

/-- probability that all four loops and the strike draw succeed within `n` draws -/
noncomputable def cFalse (w : Widths ℝ) (ξ : Tape ℝ) : ℕ → ℝ≥0∞ :=
  loopSeq (gaussianReal 0 1) (absLe (π / 6)) ξ.gamma w.gamma
    (loopSeq (gaussianReal 0 1) (absLe (π / 2)) ξ.delta w.delta (cTrue w ξ))

/-- probability that the proposal is made within `n` draws -/
noncomputable def cSeq (dc : Bool) (w : Widths ℝ) (ξ : Tape ℝ) : ℕ → ℝ≥0∞ :=
  if dc then cTrue w ξ else cFalse w ξ

section Stages
open Filter Topology

variable {G : List ℝ → Prop} {t : ℝ≥0∞} {c : ℕ → ℝ≥0∞}

theorem _root_.MTfitVerif.Proposal.FactoredStage.gaussLoop
    (h : FactoredStage (gaussianReal 0 1) G t c) {ok : ℝ → Bool} (m : ℝ) {s lo hi : ℝ} (hs : 0 < s)
    (hlh : lo < hi) (hok : ∀ x, ok x = true ↔ lo ≤ x ∧ x ≤ hi) {B : Set ℝ} (hB : MeasurableSet B) :
    FactoredStage (gaussianReal 0 1) (loopG ok m s B G) (truncLaw m s lo hi B * t)
      (loopSeq (gaussianReal 0 1) ok m s c) :=
  h.loop (okSet_measurable' m s hok) (gaussian_okSet_ne_zero ok m hs hlh hok) hB
    (gaussian_loop_eq ok m hs hlh hok hB)

theorem _root_.MTfitVerif.Proposal.FactoredStage.type
    (h : FactoredStage (gaussianReal 0 1) G t c) (dc : Bool) {b : ℝ} (hb : 0 < b) (m : ℝ) {s : ℝ}
    (hs : 0 < s) {B : Set ℝ} (hB : MeasurableSet B) :
    FactoredStage (gaussianReal 0 1) (typeG dc b m s B G) (luneLaw dc m s b B * t)
      (if dc then c else loopSeq (gaussianReal 0 1) (absLe b) m s c) := by
  classical
  cases dc
  · rw [typeG_false, luneLaw_false]
    exact h.gaussLoop m hs (neg_lt_self hb) (absLe_iff_Icc b) hB
  · rw [typeG_true, luneLaw_true, Measure.dirac_apply' _ hB, indicator_apply]
    exact h.guard _

theorem prop_stage (dc : Bool) (w : Widths ℝ) (ξ : Tape ℝ)
    (hw : 0 < w.gamma ∧ 0 < w.delta ∧ 0 < w.h ∧ 0 < w.sigma)
    {B1 B2 B3 B4 B5 : Set ℝ} (hB1 : MeasurableSet B1) (hB2 : MeasurableSet B2)
    (hB3 : MeasurableSet B3) (hB4 : MeasurableSet B4) (hB5 : MeasurableSet B5) :
    FactoredStage (gaussianReal 0 1)
      (typeG dc (π / 6) ξ.gamma w.gamma B1 (typeG dc (π / 2) ξ.delta w.delta B2
        (drawG (strikeFn w ξ) B3 (loopG inUnit ξ.h w.h B4
          (loopG (absLe (π / 2)) ξ.sigma w.sigma B5 fun _ => True)))))
      (propLaw dc w ξ (B1 ×ˢ (B2 ×ˢ (B3 ×ˢ (B4 ×ˢ B5))))) (cSeq dc w ξ) := by
  have st := ((((FactoredStage.nil.gaussLoop ξ.sigma hw.2.2.2 neg_pi_div_two_lt (absLe_iff_Icc _)
    hB5).gaussLoop ξ.h hw.2.2.1 one_pos inUnit_iff hB4).draw (measurable_strikeFn w ξ) hB3).type dc
    pi_div_two_pos ξ.delta hw.2.1 hB2).type dc pi_div_six_pos ξ.gamma hw.1 hB1
  rw [propLaw_box, ← mul_one (truncLaw ξ.sigma w.sigma _ _ B5)]
  cases dc <;> exact st

theorem cSeq_tendsto (dc : Bool) (w : Widths ℝ) (ξ : Tape ℝ)
    (hw : 0 < w.gamma ∧ 0 < w.delta ∧ 0 < w.h ∧ 0 < w.sigma) : Tendsto (cSeq dc w ξ) atTop (𝓝 1) :=
  (prop_stage dc w ξ hw .univ .univ .univ .univ .univ).lim

theorem jump_stage (w : Widths ℝ) (hg : 0 < w.gammaDc) (hd : 0 < w.deltaDc) {Bg Bd : Set ℝ}
    (hBg : MeasurableSet Bg) (hBd : MeasurableSet Bd) :
    FactoredStage (gaussianReal 0 1)
      (loopG (absLe (π / 6)) 0 w.gammaDc Bg (loopG (absLe (π / 2)) 0 w.deltaDc Bd (fun _ => True)))
      (truncLaw 0 w.gammaDc (-(π / 6)) (π / 6) Bg * (truncLaw 0 w.deltaDc (-(π / 2)) (π / 2) Bd * 1))
      (loopSeq (gaussianReal 0 1) (absLe (π / 6)) 0 w.gammaDc
        (loopSeq (gaussianReal 0 1) (absLe (π / 2)) 0 w.deltaDc fun _ => 1)) :=
  (FactoredStage.nil.gaussLoop 0 hd neg_pi_div_two_lt (absLe_iff_Icc _) hBd).gaussLoop 0 hg
    neg_pi_div_six_lt (absLe_iff_Icc _) hBg

end Stages

/-! ### the finite-stream law of the proposal -/

theorem _root_.MTfitVerif.Proposal.FactoredStage.ev_law {ν : Measure ℝ} {G : List ℝ → Prop}
    {t : ℝ≥0∞} {c : ℕ → ℝ≥0∞} (st : FactoredStage ν G t c) {Θ : Type*} {n : ℕ}
    {prop : (Fin n → ℝ) → Option Θ} {A : Set Θ} (h : ∀ ω, ω ∈ ev prop A ↔ G (List.ofFn ω)) :
    MeasurableSet (ev prop A) ∧ Measure.pi (fun _ : Fin n => ν) (ev prop A) = c n * t := by
  rw [show ev prop A = restSet G n from Set.ext h]
  exact ⟨st.meas n, st.law n⟩

/-- **finite-stream law of the proposal on measurable boxes**: the probability that the proposal is
    made within `n` draws times the product law -/
theorem box_law (dc : Bool) (w : Widths ℝ) (ξ : Tape ℝ)
    (hw : 0 < w.gamma ∧ 0 < w.delta ∧ 0 < w.h ∧ 0 < w.sigma)
    {B1 B2 B3 B4 B5 : Set ℝ} (hB1 : MeasurableSet B1) (hB2 : MeasurableSet B2)
    (hB3 : MeasurableSet B3) (hB4 : MeasurableSet B4) (hB5 : MeasurableSet B5) (n : ℕ) :
    MeasurableSet (ev (propOpt dc w ξ n) (B1 ×ˢ (B2 ×ˢ (B3 ×ˢ (B4 ×ˢ B5))))) ∧
      Measure.pi (fun _ : Fin n => gaussianReal 0 1)
          (ev (propOpt dc w ξ n) (B1 ×ˢ (B2 ×ˢ (B3 ×ˢ (B4 ×ˢ B5))))) =
        cSeq dc w ξ n * propLaw dc w ξ (B1 ×ˢ (B2 ×ˢ (B3 ×ˢ (B4 ×ˢ B5)))) :=
  (prop_stage dc w ξ hw hB1 hB2 hB3 hB4 hB5).ev_law fun ω =>
    mem_ev_map.trans (Prod.exists.trans (shiftSample_iff dc w ξ B1 B2 B3 B4 B5 (List.ofFn ω)))

/-- **finite-stream law of the proposal**: for every measurable set `A` of coordinates, "the
    proposal is made within `n` draws and lies in `A`" is a measurable event of probability
    `cSeq n · propLaw A` -/
theorem propOpt_law (dc : Bool) (w : Widths ℝ) (ξ : Tape ℝ)
    (hw : 0 < w.gamma ∧ 0 < w.delta ∧ 0 < w.h ∧ 0 < w.sigma) (n : ℕ) (A : Set Coord)
    (hA : MeasurableSet A) :
    MeasurableSet (ev (propOpt dc w ξ n) A) ∧
      Measure.pi (fun _ : Fin n => gaussianReal 0 1) (ev (propOpt dc w ξ n) A) =
        cSeq dc w ξ n * propLaw dc w ξ A := by
  have := propLaw_prob dc w ξ hw
  have hR := GenPiSystem.measurableSet (α := ℝ)
  refine ev_law_of_piSystem (Measure.pi fun _ : Fin n => gaussianReal 0 1) (propOpt dc w ξ n)
    (propLaw dc w ξ) (cSeq dc w ξ n) (hR.prod (hR.prod (hR.prod (hR.prod hR)))) ?_ A hA
  rintro _ ⟨B1, h1, _, ⟨B2, h2, _, ⟨B3, h3, _, ⟨B4, h4, B5, h5, rfl⟩, rfl⟩, rfl⟩, rfl⟩
  exact box_law dc w ξ hw h1 h2 h3 h4 h5 n

/-! ### the proposal law has density `transPdf` (times the strike kernel) -/

theorem propLaw_eq_withDensity (dc : Bool) (w : Widths ℝ) (ξ : Tape ℝ)
    (hw : 0 < w.gamma ∧ 0 < w.delta ∧ 0 < w.h ∧ 0 < w.sigma) (μκ : Measure ℝ) [SFinite μκ]
    {k : ℝ → ℝ} (hk : Measurable k) (hs : strikeLaw w ξ = μκ.withDensity fun b => ENNReal.ofReal (k b)) :
    propLaw dc w ξ = (refMeasure dc μκ).withDensity
      fun y => ENNReal.ofReal (transPdf dc w (toTape y) ξ * k y.2.2.1) := by
  have d1 := pDens_luneFactor dc ξ.gamma hw.1 pi_div_six_pos
  have d2 := pDens_luneFactor dc ξ.delta hw.2.1 pi_div_two_pos
  have d3 : PDens μκ fun b => ENNReal.ofReal (k b) :=
    ⟨hk.ennreal_ofReal, by rw [← setLIntegral_univ, ← withDensity_apply _ .univ, ← hs, measure_univ]⟩
  have d4 := pDens_truncTerm ξ.h hw.2.2.1 one_pos
  have d5 := pDens_truncTerm ξ.sigma hw.2.2.2 neg_pi_div_two_lt
  unfold propLaw
  rw [hs]
  unfold luneLaw truncLaw refMeasure
  -- `.1` of a product of densities is the measurability `prod_withDensity` asks for
  rw [prod_withDensity d4.1 d5.1, prod_withDensity d3.1 (d4.prod d5).1,
    prod_withDensity d2.1 (d3.prod (d4.prod d5)).1,
    prod_withDensity d1.1 (d2.prod (d3.prod (d4.prod d5))).1]
  congr 1
  funext y
  rw [ofReal_transPdf_mul dc w hw]
  simp only [toTape]
  ring

end MTfitVerif.StepLaw
