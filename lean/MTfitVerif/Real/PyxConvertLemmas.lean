import MTfitVerif.Model.PyxKernels
import MTfitVerif.Props.C12
/-
  The compiled conversion kernels of C20 read as vector expressions.  `cTape_MT6` is `tapeKer T P L` at the normalised
  kernel axes `tK`, `pK` and the eigenvalues `gdToE γ δ`: the raw six-vector of `Σ Lᵢ vᵢvᵢᵀ` for the axes `T`, `−(T × P)`,
  `P`, which is what the Python-path model computes from `T ∝ v₁ + v₂`, `P ∝ v₁ − v₂`.  For `cN_SDR`: the branches that
  cannot fire over ℝ and its strike wrap against `mod2pi`; `csingleSDR_SDR` is `cN_SDR` of `TP_FP` of the same axes.
  (The kernel has both rake forms of `FP_SDR`, so the agreement theorems do not need that the two forms are equal.)
-/
namespace MTfitVerif.PyxTape
open MTfitVerif.Convert Real

/-- body of the compiled kernel after its normalisation of the axes: for unit axes `T`, `P` and eigenvalues `L` -/
noncomputable def tapeKer (T P L : V3 ℝ) : ℝ × ℝ × ℝ × ℝ × ℝ × ℝ :=
  let N1 := T.y * P.z - P.y * T.z
  let N2 := -T.x * P.z + P.x * T.z
  let N3 := T.x * P.y - T.y * P.x
  (L.x * T.x * T.x + L.y * N1 * N1 + L.z * P.x * P.x,
   L.x * T.y * T.y + L.y * N2 * N2 + L.z * P.y * P.y,
   L.x * T.z * T.z + L.y * N3 * N3 + L.z * P.z * P.z,
   √2 * (L.x * T.x * T.y + L.y * N1 * N2 + L.z * P.x * P.y),
   √2 * (L.x * T.x * T.z + L.y * N1 * N3 + L.z * P.x * P.z),
   √2 * (L.x * T.y * T.z + L.y * N2 * N3 + L.z * P.y * P.z))

/-- unnormalised T axis of the kernel -/
noncomputable def tK (κ h σ : ℝ) : V3 ℝ :=
  ⟨cos κ * cos σ + sin κ * h * sin σ - sin κ * √(1 - h * h),
   sin κ * cos σ - cos κ * h * sin σ + cos κ * √(1 - h * h),
   -√(1 - h * h) * sin σ - h⟩

/-- unnormalised P axis of the kernel -/
noncomputable def pK (κ h σ : ℝ) : V3 ℝ :=
  ⟨cos κ * cos σ + sin κ * h * sin σ + sin κ * √(1 - h * h),
   sin κ * cos σ - cos κ * h * sin σ - cos κ * √(1 - h * h),
   -√(1 - h * h) * sin σ + h⟩

theorem cTape_MT6_eq_tapeKer (γ δ κ h σ m0 m1 m2 m3 m4 m5 : ℝ) :
    Pyx.cconvert.cTape_MT6 γ δ κ h σ m0 m1 m2 m3 m4 m5 =
      tapeKer (tK κ h σ).unit (pK κ h σ).unit (gdToE γ δ) := by
  rw [gdToE_eq]
  simp only [Pyx.cconvert.cTape_MT6, tapeKer, tK, pK, V3.unit, V3.norm, V3.dot, V3.sdiv, flt_sqrt, flt_sin, flt_cos,
    flt_c, Nat.cast_ofNat, Nat.cast_one]

/-- the kernel body is the raw six-vector of `Σ Lᵢ vᵢvᵢᵀ` for the axes `T`, `−(T × P)`, `P` -/
theorem tapeKer_eq (T P L : V3 ℝ) :
    tapeKer T P L =
      let v := lune_raw6 (rebuild T (V3.cross T P).neg P L)
      (v.a, v.b, v.c, v.d, v.e, v.f) := by
  simp only [tapeKer, lune_raw6, rebuild, V3.cross, V3.neg, Prod.mk.injEq]
  refine ⟨by ring, by ring, by ring, by ring, by ring, by ring⟩

/-- the kernel has `√(1 - h²)` for `sin d` -/
theorem sqrt_one_sub_cos_mul_self {d : ℝ} (hd : 0 ≤ sin d) : √(1 - cos d * cos d) = sin d := by
  rw [← sq, ← Real.sin_sq, Real.sqrt_sq hd]

/-- for `0 ≤ sin d` the kernel's T axis at `h = cos d` is the sum of the model's slip and normal vectors -/
theorem tK_eq (s r : ℝ) {d : ℝ} (hd : 0 ≤ sin d) :
    tK s (cos d) r = V3.add (sdrVec1 s d r) (sdrVec2 s d) := by
  simp only [V3.add, sdrVec1, sdrVec2, tK, flt_sin, flt_cos, sqrt_one_sub_cos_mul_self hd]
  congr 1; ring

theorem pK_eq (s r : ℝ) {d : ℝ} (hd : 0 ≤ sin d) :
    pK s (cos d) r = V3.sub (sdrVec1 s d r) (sdrVec2 s d) := by
  simp only [V3.sub, sdrVec1, sdrVec2, pK, flt_sin, flt_cos, sqrt_one_sub_cos_mul_self hd]
  congr 1 <;> ring

theorem add_sdrVecs (κ σ : ℝ) {h : ℝ} (hh : -1 ≤ h ∧ h ≤ 1) :
    V3.add (sdrVec1 κ (arccos h) σ) (sdrVec2 κ (arccos h)) = tK κ h σ := by
  rw [← tK_eq κ σ (Real.sin_arccos h ▸ Real.sqrt_nonneg _), Real.cos_arccos hh.1 hh.2]

theorem sub_sdrVecs (κ σ : ℝ) {h : ℝ} (hh : -1 ≤ h ∧ h ≤ 1) :
    V3.sub (sdrVec1 κ (arccos h) σ) (sdrVec2 κ (arccos h)) = pK κ h σ := by
  rw [← pK_eq κ σ (Real.sin_arccos h ▸ Real.sqrt_nonneg _), Real.cos_arccos hh.1 hh.2]

end MTfitVerif.PyxTape

namespace MTfitVerif.PyxSdr
open MTfitVerif.Convert Real MTfitVerif.ConvertSdr MTfitVerif.PyxTape

/-! ### branches that never fire -/

theorem atan2_gt_pi_iff (y x : ℝ) : (π < atan2 y x) ↔ False :=
  iff_false_intro (not_lt.mpr (atan2_mem y x).2)

theorem atan2_lt_neg_pi_iff (y x : ℝ) : (atan2 y x < -π) ↔ False :=
  iff_false_intro (not_lt.mpr (atan2_mem y x).1.le)

theorem abs_atan2_gt_two_pi_iff (y x : ℝ) : (2 * π < |atan2 y x|) ↔ False :=
  iff_false_intro (not_lt.mpr ((Complex.abs_arg_le_pi _).trans (le_mul_of_one_le_left pi_pos.le one_le_two)))

/-- the dip is an `atan2` of two non-negative numbers: the `dip > π/2` branch of the code is dead -/
theorem dip_gt_iff (a b z : ℝ) : (π / 2 < atan2 (a * a + b * b) (√z)) ↔ False :=
  iff_false_intro (not_lt.mpr (atan2_quadrant (add_nonneg (mul_self_nonneg _) (mul_self_nonneg _))
    (Real.sqrt_nonneg _)).2)

/-- the code's `if strike < 0: strike += 2π` on an `atan2` value is `np.mod(·, 2π)` (applied twice in the Python path) -/
theorem mod2pi_mod2pi_atan2 (y x : ℝ) :
    mod2pi (mod2pi (atan2 y x)) = if atan2 y x < 0 then atan2 y x + 2 * π else atan2 y x := by
  rw [mod2pi_of_mem (mod2pi_nonneg _) (mod2pi_lt _)]
  have h := atan2_mem y x
  split_ifs with hneg
  · exact mod2pi_of_neg (by linarith [pi_pos]) hneg
  · exact mod2pi_of_mem (not_lt.mp hneg) (by linarith [pi_pos])

/-- the shape of `cN_SDR`'s decision tree without its dead branches: the rake form is chosen outside, the strike is
    wrapped inside -/
theorem ite_ite_triple {α β γ : Type} (p q : Prop) [Decidable p] [Decidable q] (a a' : α) (d : β) (r r' : γ) :
    (if p then (if q then (a, d, r) else (a', d, r)) else (if q then (a, d, r') else (a', d, r')))
      = (if q then a else a', d, if p then r else r') := by
  split_ifs <;> rfl

/-! ### the two rake forms of `FP_SDR`, the sine of the dip -/

-- (`V3.dot t t = 1` is not needed by the proof)
set_option linter.unusedVariables false in
/-- for a unit normal `m` pointing up and not vertical and a unit slip `t` in the plane, the two rake forms of `FP_SDR`
    agree: the value is the plain `atan2(-t_z, t_x m_y - t_y m_x)` that the compiled code evaluates -/
theorem rakeOf_eq_plain {m t : V3 ℝ} (hm : V3.dot m m = 1) (ht : V3.dot t t = 1) (hp : V3.dot m t = 0)
    (hz : m.z ≤ 0) (hxy : m.x ≠ 0 ∨ m.y ≠ 0) :
    rakeOf m t = atan2 (-t.z) (t.x * m.y - t.y * m.x) :=
  rakeOf_eq hm hp hz (hlen_pos hxy)

/-- without perpendicularity: away from the near-horizontal switch of `FP_SDR` its rake is the plain form -/
theorem rakeOf_eq_plain_of_not_lt {m t : V3 ℝ} (h : ¬ sin (sdOf m).2 < (sci 1 6 : ℝ)) :
    rakeOf m t = atan2 (-t.z) (t.x * m.y - t.y * m.x) := by
  unfold rakeOf rakeRaw
  rw [if_neg h]

/-- the sine of the dip of a unit normal pointing up is the length of its horizontal part -/
theorem sin_dip_eq {m : V3 ℝ} (hm : V3.dot m m = 1) (hz : m.z ≤ 0) :
    sin (sdOf m).2 = √(m.x ^ 2 + m.y ^ 2) := by
  by_cases hxy : m.x ≠ 0 ∨ m.y ≠ 0
  · exact (sdOf_trig hm hz (hlen_pos hxy)).2.2.2
  · rw [not_or, not_not, not_not] at hxy
    obtain ⟨hx, hy⟩ := hxy
    simp [sdOf_vertical hx hy, hx, hy]

/-! ### `csingleSDR_SDR` -/

/-- the compiled `csingleSDR_SDR` normalises the kernel axes `tK`, `pK` at `h = cos d`, forms `TP_FP` of them and
    calls `cN_SDR` with the two vectors exchanged -/
theorem csingleSDR_SDR_eq_cN_SDR (s d r a b c' : ℝ) :
    Pyx.cconvert.csingleSDR_SDR s d r a b c' =
      let n := tpToFp (tK s (cos d) r).unit (pK s (cos d) r).unit
      Pyx.cconvert.cN_SDR n.1.x n.1.y n.1.z n.2.x n.2.y n.2.z a b c' := by
  simp only [Pyx.cconvert.csingleSDR_SDR, tpToFp, V3.unit, V3.norm, V3.dot, V3.sdiv, V3.add, V3.sub, tK, pK,
    flt_cos, flt_sin, flt_sqrt, flt_c, Nat.cast_one]

end MTfitVerif.PyxSdr
