import MTfitVerif.Real.AngleLemmas
/-
  The model's three-vectors over ℝ: `dot` is bilinear and symmetric, `cross` is perpendicular to its
  arguments (Lagrange's identity gives its length), `unit` ignores positive factors; then what
  `fpToTnp` / `tpToFp` do to an orthonormal pair, the two unit vectors `sdrVec1`, `sdrVec2`, `rebuild`
  as a linear map and its Frobenius norm (`C12.frob2`), and `sort3` as the descending rearrangement of a triple.
-/
namespace MTfitVerif.Convert.V3

@[ext] theorem ext' {a b : V3 ℝ} (hx : a.x = b.x) (hy : a.y = b.y) (hz : a.z = b.z) : a = b := by
  cases a; cases b; simp_all

theorem dot_comm (a b : V3 ℝ) : dot a b = dot b a := by simp only [dot]; ring

theorem dot_add_left (a b w : V3 ℝ) : dot (add a b) w = dot a w + dot b w := by simp only [dot, add]; ring

theorem dot_add_right (w a b : V3 ℝ) : dot w (add a b) = dot w a + dot w b := by simp only [dot, add]; ring

theorem dot_sub_left (a b w : V3 ℝ) : dot (sub a b) w = dot a w - dot b w := by simp only [dot, sub]; ring

theorem dot_sub_right (w a b : V3 ℝ) : dot w (sub a b) = dot w a - dot w b := by simp only [dot, sub]; ring

theorem dot_neg_left (a w : V3 ℝ) : dot (neg a) w = -dot a w := by simp only [dot, neg]; ring

theorem dot_neg_right (w a : V3 ℝ) : dot w (neg a) = -dot w a := by simp only [dot, neg]; ring

theorem dot_smul_left (k : ℝ) (a w : V3 ℝ) : dot (smul k a) w = k * dot a w := by simp only [dot, smul]; ring

theorem dot_smul_right (k : ℝ) (w a : V3 ℝ) : dot w (smul k a) = k * dot w a := by simp only [dot, smul]; ring

theorem dot_sdiv_left (a w : V3 ℝ) (k : ℝ) : dot (sdiv a k) w = dot a w / k := by simp only [dot, sdiv]; ring

theorem dot_sdiv_right (w a : V3 ℝ) (k : ℝ) : dot w (sdiv a k) = dot w a / k := by simp only [dot, sdiv]; ring

theorem dot_cross_self_left (a b : V3 ℝ) : dot a (cross a b) = 0 := by simp only [dot, cross]; ring

theorem dot_cross_self_right (a b : V3 ℝ) : dot b (cross a b) = 0 := by simp only [dot, cross]; ring

theorem cross_lagrange (a b : V3 ℝ) : dot (cross a b) (cross a b) = dot a a * dot b b - dot a b ^ 2 := by
  simp only [dot, cross]; ring

theorem dot_self_nonneg (a : V3 ℝ) : 0 ≤ dot a a :=
  add_nonneg (add_nonneg (mul_self_nonneg _) (mul_self_nonneg _)) (mul_self_nonneg _)

theorem neg_neg (a : V3 ℝ) : a.neg.neg = a := by ext <;> exact _root_.neg_neg _

theorem dot_neg_neg (a b : V3 ℝ) : dot a.neg b.neg = dot a b := by
  rw [dot_neg_left, dot_neg_right, _root_.neg_neg]

theorem norm_eq (a : V3 ℝ) : a.norm = √(dot a a) := rfl

theorem unit_eq (a : V3 ℝ) : a.unit = sdiv a √(dot a a) := rfl

theorem sdiv_one (a : V3 ℝ) : sdiv a 1 = a := by ext <;> exact div_one _

theorem unit_of_unit {a : V3 ℝ} (h : dot a a = 1) : a.unit = a := by
  rw [unit_eq, h, Real.sqrt_one, sdiv_one]

theorem dot_unit_unit {a : V3 ℝ} (h : dot a a ≠ 0) : dot a.unit a.unit = 1 := by
  rw [unit_eq, dot_sdiv_left, dot_sdiv_right, div_div, Real.mul_self_sqrt (dot_self_nonneg a), div_self h]

theorem unit_unit (a : V3 ℝ) : a.unit.unit = a.unit := by
  by_cases h : dot a a = 0
  · have z : ∀ {v : V3 ℝ}, dot v v = 0 → v.unit = ⟨0, 0, 0⟩ := fun hv => by
      simp [unit, norm, hv, sdiv]
    rw [z h]; exact z (by simp [dot])
  · exact unit_of_unit (dot_unit_unit h)

theorem add_sdiv (u v : V3 ℝ) (k : ℝ) : add (sdiv u k) (sdiv v k) = sdiv (add u v) k := by
  ext <;> exact (add_div _ _ _).symm

theorem sub_sdiv (u v : V3 ℝ) (k : ℝ) : sub (sdiv u k) (sdiv v k) = sdiv (sub u v) k := by
  ext <;> exact (sub_div _ _ _).symm

theorem add_add_sub (a b : V3 ℝ) : add (add a b) (sub a b) = smul 2 a := by
  ext <;> simp only [add, sub, smul] <;> ring

theorem sub_add_sub (a b : V3 ℝ) : sub (add a b) (sub a b) = smul 2 b := by
  ext <;> simp only [add, sub, smul] <;> ring

theorem norm_smul {k : ℝ} (hk : 0 ≤ k) (a : V3 ℝ) : (smul k a).norm = k * a.norm := by
  rw [norm_eq, norm_eq, dot_smul_left, dot_smul_right, ← mul_assoc, Real.sqrt_mul (mul_self_nonneg k),
    Real.sqrt_mul_self hk]

theorem unit_smul {k : ℝ} (hk : 0 < k) (a : V3 ℝ) : (smul k a).unit = a.unit := by
  rw [unit, unit, norm_smul hk.le]; ext <;> exact mul_div_mul_left _ _ hk.ne'

theorem sdiv_eq_smul (a : V3 ℝ) (k : ℝ) : sdiv a k = smul k⁻¹ a := by
  ext <;> exact div_eq_inv_mul _ _

theorem unit_sdiv {k : ℝ} (hk : 0 < k) (a : V3 ℝ) : (sdiv a k).unit = a.unit := by
  rw [sdiv_eq_smul, unit_smul (inv_pos.mpr hk)]

theorem norm_neg (a : V3 ℝ) : a.neg.norm = a.norm := by
  rw [norm_eq, norm_eq, dot_neg_neg]

theorem unit_neg (a : V3 ℝ) : a.neg.unit = a.unit.neg := by
  rw [unit, unit, norm_neg]; ext <;> exact neg_div _ _

end MTfitVerif.Convert.V3

namespace MTfitVerif.Convert
open Real

/-! ### an orthonormal pair `a`, `b`: `T = (a+b)/√2`, `N = a×b`, `P = (a−b)/√2` -/

section
variable {a b : V3 ℝ} (ha : V3.dot a a = 1) (hb : V3.dot b b = 1) (hab : V3.dot a b = 0)
include ha hb hab

theorem dot_add_self_of_orthonormal : V3.dot (V3.add a b) (V3.add a b) = 2 := by
  rw [V3.dot_add_left, V3.dot_add_right, V3.dot_add_right, V3.dot_comm b a, ha, hb, hab]; norm_num

theorem dot_sub_self_of_orthonormal : V3.dot (V3.sub a b) (V3.sub a b) = 2 := by
  rw [V3.dot_sub_left, V3.dot_sub_right, V3.dot_sub_right, V3.dot_comm b a, ha, hb, hab]; norm_num

theorem dot_cross_self_of_orthonormal : V3.dot (V3.cross a b) (V3.cross a b) = 1 := by
  rw [V3.cross_lagrange, ha, hb, hab]; norm_num

theorem fpToTnp_of_orthonormal :
    fpToTnp a b = (V3.sdiv (V3.add a b) (√2), V3.cross a b, V3.sdiv (V3.sub a b) (√2)) := by
  simp only [fpToTnp, V3.unit_eq, dot_add_self_of_orthonormal ha hb hab, dot_sub_self_of_orthonormal ha hb hab]
  refine Prod.ext rfl (Prod.ext ?_ rfl)
  apply V3.ext' <;> simp only [V3.neg, V3.cross, V3.sdiv, V3.add, V3.sub, div_mul_div_comm, sqrt2_mul_self] <;> ring

theorem tnp_orthonormal :
    let T := (fpToTnp a b).1; let N := (fpToTnp a b).2.1; let P := (fpToTnp a b).2.2
    V3.dot T T = 1 ∧ V3.dot N N = 1 ∧ V3.dot P P = 1 ∧ V3.dot T N = 0 ∧ V3.dot T P = 0 ∧ V3.dot N P = 0 := by
  rw [fpToTnp_of_orthonormal ha hb hab]
  refine ⟨?_, ?_, ?_, ?_, ?_, ?_⟩ <;> dsimp only
  · rw [V3.dot_sdiv_left, V3.dot_sdiv_right, dot_add_self_of_orthonormal ha hb hab, div_div, sqrt2_mul_self, div_self two_ne_zero]
  · exact dot_cross_self_of_orthonormal ha hb hab
  · rw [V3.dot_sdiv_left, V3.dot_sdiv_right, dot_sub_self_of_orthonormal ha hb hab, div_div, sqrt2_mul_self, div_self two_ne_zero]
  · rw [V3.dot_sdiv_left, V3.dot_add_left, V3.dot_cross_self_left, V3.dot_cross_self_right, add_zero, zero_div]
  · rw [V3.dot_sdiv_left, V3.dot_sdiv_right, V3.dot_add_left, V3.dot_sub_right, V3.dot_sub_right, V3.dot_comm b a, ha, hb, hab]; norm_num
  · rw [V3.dot_sdiv_right, V3.dot_sub_right, V3.dot_comm, V3.dot_cross_self_left, V3.dot_comm _ b, V3.dot_cross_self_right, sub_zero, zero_div]

theorem tpToFp_fpToTnp : tpToFp (fpToTnp a b).1 (fpToTnp a b).2.2 = (a, b) := by
  rw [fpToTnp_of_orthonormal ha hb hab]
  simp only [tpToFp, V3.add_sdiv, V3.sub_sdiv, V3.add_add_sub, V3.sub_add_sub, V3.unit_sdiv (Real.sqrt_pos.mpr two_pos),
    V3.unit_smul two_pos, V3.unit_of_unit ha, V3.unit_of_unit hb]
end

/-! ### slip vector and fault normal of strike, dip, rake -/

theorem sdrVec1_unit (s d r : ℝ) : V3.dot (sdrVec1 s d r) (sdrVec1 s d r) = 1 := by
  simp only [sdrVec1, V3.dot, flt_sin, flt_cos]
  linear_combination (cos r ^ 2 + cos d ^ 2 * sin r ^ 2) * Real.sin_sq_add_cos_sq s
    + sin r ^ 2 * Real.sin_sq_add_cos_sq d + Real.sin_sq_add_cos_sq r

theorem sdrVec2_unit (s d : ℝ) : V3.dot (sdrVec2 s d) (sdrVec2 s d) = 1 := by
  simp only [sdrVec2, V3.dot, flt_sin, flt_cos]
  linear_combination (sin d ^ 2) * Real.sin_sq_add_cos_sq s + Real.sin_sq_add_cos_sq d

theorem sdrVec_perp (s d r : ℝ) : V3.dot (sdrVec1 s d r) (sdrVec2 s d) = 0 := by
  simp only [sdrVec1, sdrVec2, V3.dot, flt_sin, flt_cos]
  linear_combination (-(cos d * sin d * sin r)) * Real.sin_sq_add_cos_sq s

theorem sdrVec2_z_nonpos (s : ℝ) {d : ℝ} (hd : 0 ≤ cos d) : (sdrVec2 s d).z ≤ 0 := neg_nonpos.mpr hd

theorem sdrVec_cross_z (s d r : ℝ) :
    (sdrVec1 s d r).x * (sdrVec2 s d).y - (sdrVec1 s d r).y * (sdrVec2 s d).x = sin d * cos r := by
  simp only [sdrVec1, sdrVec2, flt_sin, flt_cos]
  linear_combination (sin d * cos r) * Real.sin_sq_add_cos_sq s

theorem sdrVec1_xy (s d r : ℝ) :
    (sdrVec1 s d r).x ^ 2 + (sdrVec1 s d r).y ^ 2 = cos d ^ 2 + sin d ^ 2 * cos r ^ 2 := by
  have h := sdrVec1_unit s d r
  rw [V3.dot, show (sdrVec1 s d r).z = -sin d * sin r from rfl] at h
  linear_combination h - sin_sq_add_cos_sq d - sin d ^ 2 * sin_sq_add_cos_sq r

theorem sdrToTnp_eq (s d r : ℝ) : sdrToTnp s d r =
    (V3.sdiv (V3.add (sdrVec1 s d r) (sdrVec2 s d)) (√2), V3.cross (sdrVec1 s d r) (sdrVec2 s d),
      V3.sdiv (V3.sub (sdrVec1 s d r) (sdrVec2 s d)) (√2)) :=
  fpToTnp_of_orthonormal (sdrVec1_unit s d r) (sdrVec2_unit s d) (sdrVec_perp s d r)

/-- Frobenius norm squared of a symmetric tensor -/
def _root_.MTfitVerif.C12.frob2 (m : Sym3 ℝ) : ℝ := m.xx^2 + m.yy^2 + m.zz^2 + 2 * (m.xy^2 + m.xz^2 + m.yz^2)

/-- Frobenius norm² of `Σ eᵢ vᵢvᵢᵀ` in terms of the Gram matrix of the axes -/
theorem rebuild_frob (T N P e : V3 ℝ) :
    C12.frob2 (rebuild T N P e)
      = (e.x * V3.dot T T) ^ 2 + (e.y * V3.dot N N) ^ 2 + (e.z * V3.dot P P) ^ 2
        + 2 * (e.x * e.y * V3.dot T N ^ 2 + e.x * e.z * V3.dot T P ^ 2 + e.y * e.z * V3.dot N P ^ 2) := by
  simp only [C12.frob2, rebuild, V3.dot]
  ring

theorem rebuild_frob_orthonormal (e : V3 ℝ) {a b cc : V3 ℝ} (ha : V3.dot a a = 1) (hb : V3.dot b b = 1)
    (hc : V3.dot cc cc = 1) (hab : V3.dot a b = 0) (hac : V3.dot a cc = 0) (hbc : V3.dot b cc = 0) :
    C12.frob2 (rebuild a b cc e) = e.x ^ 2 + e.y ^ 2 + e.z ^ 2 := by
  rw [rebuild_frob, ha, hb, hc, hab, hac, hbc]; ring

def Sym3.mulVec (m : Sym3 ℝ) (w : V3 ℝ) : V3 ℝ :=
  ⟨m.xx * w.x + m.xy * w.y + m.xz * w.z, m.xy * w.x + m.yy * w.y + m.yz * w.z,
   m.xz * w.x + m.yz * w.y + m.zz * w.z⟩

theorem rebuild_mulVec (T N P e w : V3 ℝ) :
    Sym3.mulVec (rebuild T N P e) w = V3.add (V3.add (V3.smul (e.x * V3.dot T w) T)
      (V3.smul (e.y * V3.dot N w) N)) (V3.smul (e.z * V3.dot P w) P) := by
  apply V3.ext' <;> simp only [Sym3.mulVec, rebuild, V3.add, V3.smul, V3.dot] <;> ring

/-! ### `sort3`: the descending rearrangement of a triple -/

/-- one compare-and-swap step of the sorting network -/
theorem cswap_eq (a b : ℝ) : (if Flt.ltb a b then (b, a) else (a, b)) = (max a b, min a b) := by
  simp only [max_def_lt, min_def_lt, flt_ltb, decide_eq_true_eq, apply_ite₂ Prod.mk]

theorem sort3_eq (a b c : ℝ) : sort3 (⟨a, b, c⟩ : V3 ℝ) =
    ⟨max (max a b) (max (min a b) c), min (max a b) (max (min a b) c), min (min a b) c⟩ := by
  simp only [sort3, cswap_eq]

theorem perm_max_min (a b : ℝ) (l : List ℝ) : (max a b :: min a b :: l).Perm (a :: b :: l) := by
  rcases le_total a b with h | h
  · rw [max_eq_right h, min_eq_left h]; exact List.Perm.swap _ _ _
  · rw [max_eq_left h, min_eq_right h]

theorem sort3_spec (e : V3 ℝ) :
    (sort3 e).z ≤ (sort3 e).y ∧ (sort3 e).y ≤ (sort3 e).x ∧
      [(sort3 e).x, (sort3 e).y, (sort3 e).z].Perm [e.x, e.y, e.z] := by
  obtain ⟨a, b, c⟩ := e
  rw [sort3_eq]
  refine ⟨le_min (min_le_left _ _ |>.trans <| min_le_left _ _ |>.trans <| le_max_left _ _)
      (min_le_left _ _ |>.trans <| le_max_left _ _), min_le_left _ _ |>.trans <| le_max_left _ _, ?_⟩
  exact (perm_max_min _ _ _).trans <| ((perm_max_min _ _ _).cons _).trans <| perm_max_min a b [c]

theorem sort3_unique {e s : V3 ℝ} (h1 : s.z ≤ s.y) (h2 : s.y ≤ s.x)
    (hp : [s.x, s.y, s.z].Perm [e.x, e.y, e.z]) : sort3 e = s := by
  obtain ⟨g1, g2, gp⟩ := sort3_spec e
  have := List.Perm.eq_of_pairwise (le := (· ≥ ·))
    (l₁ := [(sort3 e).x, (sort3 e).y, (sort3 e).z]) (l₂ := [s.x, s.y, s.z])
    (fun _ _ _ _ h h' => le_antisymm h' h) (by simp [g1, g2, g1.trans g2]) (by simp [h1, h2, h1.trans h2])
    (gp.trans hp.symm)
  injection this with hx t; injection t with hy t; injection t with hz
  exact V3.ext' hx hy hz

theorem sort3_of_sorted (e : V3 ℝ) (h1 : e.z ≤ e.y) (h2 : e.y ≤ e.x) : sort3 e = e :=
  sort3_unique h1 h2 (List.Perm.refl _)

theorem sort3_congr {e e' : V3 ℝ} (hp : [e.x, e.y, e.z].Perm [e'.x, e'.y, e'.z]) : sort3 e = sort3 e' :=
  have ⟨h1, h2, h3⟩ := sort3_spec e'
  sort3_unique h1 h2 (h3.trans hp.symm)

theorem sort3_scale (e : V3 ℝ) {k : ℝ} (hk : 0 ≤ k) : sort3 (V3.smul k e) = V3.smul k (sort3 e) :=
  have ⟨h1, h2, h3⟩ := sort3_spec e
  sort3_unique (mul_le_mul_of_nonneg_left h1 hk) (mul_le_mul_of_nonneg_left h2 hk) (h3.map (k * ·))

theorem sort3_mem_Icc (e : V3 ℝ) {t : ℝ} (ht : t ∈ [e.x, e.y, e.z]) : (sort3 e).z ≤ t ∧ t ≤ (sort3 e).x := by
  obtain ⟨h1, h2, h3⟩ := sort3_spec e
  have := h3.mem_iff.mpr ht
  simp only [List.mem_cons, List.not_mem_nil, or_false] at this
  rcases this with rfl | rfl | rfl
  exacts [⟨h1.trans h2, le_rfl⟩, ⟨h1, h2⟩, ⟨le_rfl, h1.trans h2⟩]

theorem sort3_ends_eq (e : V3 ℝ) (h : (sort3 e).x = (sort3 e).z) : e.x = e.y ∧ e.y = e.z := by
  have hx := sort3_mem_Icc e (t := e.x) (by simp)
  have hy := sort3_mem_Icc e (t := e.y) (by simp)
  have hz := sort3_mem_Icc e (t := e.z) (by simp)
  rw [h] at hx hy hz
  exact ⟨(le_antisymm hx.2 hx.1).trans (le_antisymm hy.1 hy.2), (le_antisymm hy.2 hy.1).trans (le_antisymm hz.1 hz.2)⟩

end MTfitVerif.Convert
