import MTfitVerif.Model.PyxSpecCombined
/-
  Helper lemmas for `Props/C20LoopsCombined.lean`: the combined station terms of `Model/PyxSpecCombined.lean` as nested
  `if`s on which observations station `u` carries.  Core/Std only; everything is polymorphic in the scalar type.
-/
namespace MTfitVerif
namespace PyxLoop
open PyxSpec

variable {α : Type} [Add α] [Sub α] [Mul α] [Div α] [Neg α] [Flt α]

/-- `accumulate t n s` reads the station terms `t u` for `s ≤ u < s + n` only (so the value given to the unreachable last case
    of the combined terms of `PyxSpecCombined` does not matter) -/
theorem accumulate_congr (t t' : Nat → α) (n s : Nat) (acc : α) (h : ∀ u, s ≤ u → u < s + n → t u = t' u) :
    accumulate t n s acc = accumulate t' n s acc := by
  induction n generalizing s acc with
  | zero => rfl
  | succ n ih =>
    simp only [accumulate]
    rw [h s (Nat.le_refl s) (by omega), ih (s + 1) _ (fun u h1 h2 => h u (by omega) (by omega))]

variable (a ax ay mt z sigma ipp psx psy pos neg a_prob : Array α) (ipmax v umax uarmax uprobmax vmax kmax wmax w u : Nat)

theorem polArTerm_eq :
    polArTerm a ax ay mt z sigma ipp psx psy ipmax v umax uarmax vmax kmax wmax w u
      = if u < umax then
          if u < uarmax then
            polTerm a mt sigma ipp ipmax v vmax kmax wmax w u + arTerm ax ay mt z psx psy v vmax kmax wmax w u
          else polTerm a mt sigma ipp ipmax v vmax kmax wmax w u
        else if u < uarmax then arTerm ax ay mt z psx psy v vmax kmax wmax w u else c 0 := by
  -- the specification branches by `decide`, the right side by `if`: both reduce once the instances are constructors
  unfold polArTerm
  cases Nat.decLt u umax <;> cases Nat.decLt u uarmax <;> rfl

theorem polProbArTerm_eq :
    polProbArTerm a ax ay mt z pos neg ipp psx psy ipmax v umax uarmax vmax kmax wmax w u
      = if u < umax then
          if u < uarmax then
            polProbTerm a mt pos neg ipp ipmax v vmax kmax wmax w u + arTerm ax ay mt z psx psy v vmax kmax wmax w u
          else polProbTerm a mt pos neg ipp ipmax v vmax kmax wmax w u
        else if u < uarmax then arTerm ax ay mt z psx psy v vmax kmax wmax w u else c 0 := by
  unfold polProbArTerm
  cases Nat.decLt u umax <;> cases Nat.decLt u uarmax <;> rfl

theorem polPolProbTerm_eq :
    polPolProbTerm a a_prob mt pos neg ipp sigma ipmax v umax uprobmax vmax kmax wmax w u
      = if u < umax then
          if u < uprobmax then
            polTerm a mt sigma ipp ipmax v vmax kmax wmax w u + polProbTerm a_prob mt pos neg ipp ipmax v vmax kmax wmax w u
          else polTerm a mt sigma ipp ipmax v vmax kmax wmax w u
        else if u < uprobmax then polProbTerm a_prob mt pos neg ipp ipmax v vmax kmax wmax w u else c 0 := by
  unfold polPolProbTerm
  cases Nat.decLt u umax <;> cases Nat.decLt u uprobmax <;> rfl

theorem allTerm_eq :
    allTerm a a_prob ax ay mt z pos neg ipp psx psy sigma ipmax v umax uarmax uprobmax vmax kmax wmax w u
      = if u < uarmax then
          if u < umax then
            if u < uprobmax then
              (polTerm a mt sigma ipp ipmax v vmax kmax wmax w u + polProbTerm a_prob mt pos neg ipp ipmax v vmax kmax wmax w u)
                + arTerm ax ay mt z psx psy v vmax kmax wmax w u
            else polTerm a mt sigma ipp ipmax v vmax kmax wmax w u + arTerm ax ay mt z psx psy v vmax kmax wmax w u
          else if u < uprobmax then
            polProbTerm a_prob mt pos neg ipp ipmax v vmax kmax wmax w u + arTerm ax ay mt z psx psy v vmax kmax wmax w u
          else arTerm ax ay mt z psx psy v vmax kmax wmax w u
        else if u < umax then
          if u < uprobmax then
            polProbTerm a_prob mt pos neg ipp ipmax v vmax kmax wmax w u + polTerm a mt sigma ipp ipmax v vmax kmax wmax w u
          else polTerm a mt sigma ipp ipmax v vmax kmax wmax w u
        else if u < uprobmax then polProbTerm a_prob mt pos neg ipp ipmax v vmax kmax wmax w u else c 0 := by
  unfold allTerm
  cases Nat.decLt u umax <;> cases Nat.decLt u uprobmax <;> cases Nat.decLt u uarmax <;> rfl

end PyxLoop
end MTfitVerif
