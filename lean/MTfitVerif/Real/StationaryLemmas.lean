import Mathlib.Probability.Kernel.Invariance
import Mathlib.Probability.Kernel.WithDensity
/-
  Helper definitions and lemmas for C07 (stationarity half): the Metropolis–Hastings kernel
  "move with probability `a`, otherwise record the current state again" on a general measurable
  state space (densities w.r.t. an s-finite reference measure) and on a finite state space
  (transition matrix): detailed balance makes the kernel reversible, hence the target invariant.
-/
namespace MTfitVerif.Stationary
open MeasureTheory ProbabilityTheory
open scoped ENNReal

theorem ofReal_balance {a b c a' b' c' : ℝ} (ha : 0 ≤ a) (hb : 0 ≤ b) (ha' : 0 ≤ a') (hb' : 0 ≤ b')
    (h : a * b * c = a' * b' * c') :
    ENNReal.ofReal a * ENNReal.ofReal b * ENNReal.ofReal c
      = ENNReal.ofReal a' * ENNReal.ofReal b' * ENNReal.ofReal c' := by
  rw [← ENNReal.ofReal_mul ha, ← ENNReal.ofReal_mul (mul_nonneg ha hb), ← ENNReal.ofReal_mul ha',
    ← ENNReal.ofReal_mul (mul_nonneg ha' hb'), h]

/-! ### general state space -/
section General
variable {X : Type*} [MeasurableSpace X]

/-- probability of leaving `x` in one step: `A x = ∫ q(x,y) a(x,y) λ(dy)` -/
noncomputable def moveProb (lam : Measure X) (q a : X → X → ℝ≥0∞) (x : X) : ℝ≥0∞ :=
  ∫⁻ y, q x y * a x y ∂lam

/-- the Metropolis–Hastings kernel as a set function: from `x` move into `B` with density
    `q x y * a x y`, and with the remaining probability `1 - A x` stay at `x` (the chain records
    the current state again on rejection) -/
noncomputable def mhK (lam : Measure X) (q a : X → X → ℝ≥0∞) (x : X) (B : Set X) : ℝ≥0∞ :=
  ∫⁻ y in B, q x y * a x y ∂lam + (1 - ∫⁻ y, q x y * a x y ∂lam) * B.indicator 1 x

theorem mhK_eq (lam : Measure X) (q a : X → X → ℝ≥0∞) (x : X) (B : Set X) :
    mhK lam q a x B = ∫⁻ y in B, q x y * a x y ∂lam + (1 - moveProb lam q a x) * B.indicator 1 x := rfl

/-! proposal density and acceptance from a state of `X` to a state of `Y` (`Y = X` for a shift,
    `Y` the extra coordinates for a jump between models) -/
section Proposal
variable {Y : Type*} [MeasurableSpace Y] {μ : Measure Y} {q a : X → Y → ℝ≥0∞}

theorem measurable_qa (hq : Measurable (Function.uncurry q)) (ha : Measurable (Function.uncurry a)) :
    Measurable (Function.uncurry fun x y => q x y * a x y) := hq.mul ha

theorem measurable_lintegral_qa [SFinite μ] (hq : Measurable (Function.uncurry q))
    (ha : Measurable (Function.uncurry a)) : Measurable fun x => ∫⁻ y, q x y * a x y ∂μ :=
  (measurable_qa hq ha).lintegral_prod_right'

omit [MeasurableSpace X] in
theorem lintegral_qa_le_one (hqn : ∀ x, ∫⁻ y, q x y ∂μ = 1) (ha1 : ∀ x y, a x y ≤ 1) (x : X) :
    ∫⁻ y, q x y * a x y ∂μ ≤ 1 := by
  rw [← hqn x]
  exact lintegral_mono fun y => mul_le_of_le_one_right' (ha1 x y)

end Proposal

/-! #### invariance of the measure with density `π`, in set-function form -/

theorem lintegral_of_invariant {κ : Kernel X X} {μ : Measure X} (h : Kernel.Invariant κ μ)
    {B : Set X} (hB : MeasurableSet B) : ∫⁻ x, κ x B ∂μ = μ B := by
  rw [← Measure.bind_apply hB (Kernel.aemeasurable _), h.def]

theorem invariant_withDensity_iff {lam : Measure X} {π : X → ℝ≥0∞} (hπ : Measurable π)
    {κ : Kernel X X} :
    Kernel.Invariant κ (lam.withDensity π) ↔
      ∀ B, MeasurableSet B → ∫⁻ x, π x * κ x B ∂lam = ∫⁻ x in B, π x ∂lam := by
  rw [Kernel.Invariant, Measure.ext_iff]
  refine forall₂_congr fun B hB => ?_
  rw [Measure.bind_apply hB (Kernel.aemeasurable _), withDensity_apply _ hB,
    lintegral_withDensity_eq_lintegral_mul _ hπ (Kernel.measurable_coe _ hB)]
  rfl

theorem invariant_iterate {κ : Kernel X X} {μ : Measure X} (h : Kernel.Invariant κ μ) (n : ℕ) :
    (fun ν : Measure X => ν.bind κ)^[n] μ = μ :=
  Function.iterate_fixed (f := fun ν : Measure X => ν.bind κ) h.def n

theorem invariant_iterate_apply {lam : Measure X} {π : X → ℝ≥0∞} {κ : Kernel X X}
    (h : Kernel.Invariant κ (lam.withDensity π)) (n : ℕ) {B : Set X} (hB : MeasurableSet B) :
    ((fun ν : Measure X => ν.bind κ)^[n] (lam.withDensity π)) B = ∫⁻ x in B, π x ∂lam := by
  rw [invariant_iterate h n, withDensity_apply _ hB]

/-! #### detailed balance ⇒ reversibility -/

/-- **A kernel that moves by `M` and otherwise stays where it is, is reversible** w.r.t. the measure
    with density `π` as soon as the flow of its moving part is symmetric.  (Staying contributes
    `∫_{A ∩ B} π r` to the flow from `A` to `B`, which is symmetric in `A` and `B`.) -/
theorem isReversible_of_move_stay {κ : Kernel X X} {lam : Measure X} {π r : X → ℝ≥0∞}
    {M : X → Set X → ℝ≥0∞} (hπ : Measurable π) (hr : Measurable r)
    (hκ : ∀ x B, MeasurableSet B → κ x B = M x B + r x * B.indicator 1 x)
    (hM : ∀ A B, MeasurableSet A → MeasurableSet B →
      ∫⁻ x in A, π x * M x B ∂lam = ∫⁻ x in B, π x * M x A ∂lam) :
    κ.IsReversible (lam.withDensity π) := by
  have key : ∀ A B, MeasurableSet A → MeasurableSet B → ∫⁻ x in A, κ x B ∂lam.withDensity π
      = ∫⁻ x in A, π x * M x B ∂lam + ∫⁻ x in B ∩ A, π x * r x ∂lam := by
    intro A B hA hB
    have hm : Measurable (B.indicator fun x => π x * r x) := (hπ.mul hr).indicator hB
    rw [setLIntegral_withDensity_eq_setLIntegral_mul _ hπ (Kernel.measurable_coe κ hB) hA,
      ← setLIntegral_indicator hB, ← lintegral_add_right _ hm]
    refine lintegral_congr fun x => ?_
    rw [Pi.mul_apply, hκ x B hB, mul_add, ← mul_assoc]
    by_cases hx : x ∈ B
    · rw [Set.indicator_of_mem hx, Set.indicator_of_mem hx, Pi.one_apply, mul_one]
    · rw [Set.indicator_of_notMem hx, Set.indicator_of_notMem hx, mul_zero]
  intro A B hA hB
  rw [key A B hA hB, key B A hB hA, hM A B hA hB, Set.inter_comm]

theorem lintegral_flow_symm {lam : Measure X} [SFinite lam] {π : X → ℝ≥0∞} {f : X → X → ℝ≥0∞}
    (hπ : Measurable π) (hf : Measurable (Function.uncurry f))
    (hdb : ∀ x y, π x * f x y = π y * f y x) (A B : Set X) :
    ∫⁻ x in A, π x * ∫⁻ y in B, f x y ∂lam ∂lam = ∫⁻ x in B, π x * ∫⁻ y in A, f x y ∂lam ∂lam := by
  have h : ∀ (C : Set X) (x : X), π x * ∫⁻ y in C, f x y ∂lam = ∫⁻ y in C, π x * f x y ∂lam :=
    fun C x => (lintegral_const_mul _ (Measurable.of_uncurry_left hf)).symm
  simp only [h]
  rw [lintegral_lintegral_swap]
  · simp only [hdb]
  · exact ((hπ.comp measurable_fst).mul hf).aemeasurable

variable {lam : Measure X} {q a : X → X → ℝ≥0∞}

/-- the same kernel as a Mathlib `Kernel`: the moving part has density `q x y * a x y` w.r.t. the
    reference measure, the staying part is `(1 - A x) • δ_x` -/
noncomputable def mhKernel (lam : Measure X) [SFinite lam] (q a : X → X → ℝ≥0∞) : Kernel X X :=
  Kernel.withDensity (Kernel.const X lam) (fun x y => q x y * a x y)
    + Kernel.withDensity (Kernel.id : Kernel X X) (fun x _ => 1 - moveProb lam q a x)

theorem withDensity_deterministic_apply {X Y : Type*} [MeasurableSpace X] [MeasurableSpace Y]
    {f : X → Y} (hf : Measurable f) {r : X → ℝ≥0∞} (hr : Measurable r) (x : X) {B : Set Y}
    (hB : MeasurableSet B) :
    Kernel.withDensity (Kernel.deterministic f hf) (fun x _ => r x) x B = r x * B.indicator 1 (f x) := by
  have hs : Measurable (Function.uncurry fun (x : X) (_ : Y) => r x) := hr.comp measurable_fst
  rw [Kernel.withDensity_apply' _ hs, Kernel.deterministic_apply, setLIntegral_const,
    Measure.dirac_apply' _ hB]

theorem mhKernel_apply [SFinite lam] (hq : Measurable (Function.uncurry q))
    (ha : Measurable (Function.uncurry a)) (x : X) {B : Set X} (hB : MeasurableSet B) :
    mhKernel lam q a x B = mhK lam q a x B := by
  refine (Measure.add_apply _ _ _).trans (congr_arg₂ (· + ·) ?_
    (withDensity_deterministic_apply measurable_id
      (measurable_const.sub (measurable_lintegral_qa hq ha)) x hB))
  rw [Kernel.withDensity_apply' _ (measurable_qa hq ha), Kernel.const_apply]

theorem mhKernel_isReversible (lam : Measure X) [SFinite lam] {π : X → ℝ≥0∞}
    (hπ : Measurable π) (hq : Measurable (Function.uncurry q))
    (ha : Measurable (Function.uncurry a))
    (hdb : ∀ x y, π x * q x y * a x y = π y * q y x * a y x) :
    (mhKernel lam q a).IsReversible (lam.withDensity π) :=
  isReversible_of_move_stay hπ (measurable_const.sub (measurable_lintegral_qa hq ha))
    (fun x _ hB => mhKernel_apply hq ha x hB)
    fun A B _ _ => lintegral_flow_symm hπ (measurable_qa hq ha)
      (fun x y => by rw [← mul_assoc, hdb, mul_assoc]) A B

end General

/-! ### finite state space -/
section Finite
variable {S : Type*} [Fintype S] [DecidableEq S]

/-- the Metropolis–Hastings transition matrix: move `x → y` with probability `q x y * a x y`,
    stay with the remaining probability -/
def mhMatrix (q a : S → S → ℝ) : Matrix S S ℝ :=
  fun x y => q x y * a x y + (if x = y then 1 - ∑ z, q x z * a x z else 0)

theorem mhMatrix_apply (q a : S → S → ℝ) (x y : S) :
    mhMatrix q a x y = q x y * a x y + (if x = y then 1 - ∑ z, q x z * a x z else 0) := rfl

theorem mhMatrix_row_sum (q a : S → S → ℝ) (x : S) : ∑ y, mhMatrix q a x y = 1 := by
  simp only [mhMatrix_apply, Finset.sum_add_distrib, Finset.sum_ite_eq, Finset.mem_univ, if_true]
  ring

theorem mhMatrix_nonneg {q a : S → S → ℝ} (hq0 : ∀ x y, 0 ≤ q x y) (hqn : ∀ x, ∑ y, q x y ≤ 1)
    (ha0 : ∀ x y, 0 ≤ a x y) (ha1 : ∀ x y, a x y ≤ 1) (x y : S) : 0 ≤ mhMatrix q a x y := by
  have h : ∑ z, q x z * a x z ≤ 1 :=
    le_trans (Finset.sum_le_sum fun z _ => mul_le_of_le_one_right (hq0 x z) (ha1 x z)) (hqn x)
  rw [mhMatrix_apply]
  refine add_nonneg (mul_nonneg (hq0 x y) (ha0 x y)) ?_
  split
  exacts [sub_nonneg.2 h, le_rfl]

/-- detailed balance ⇒ stationarity, entrywise (pure algebra: no sign or normalisation needed) -/
theorem mhMatrix_stationary {π : S → ℝ} {q a : S → S → ℝ}
    (hdb : ∀ x y, π x * q x y * a x y = π y * q y x * a y x) (y : S) :
    ∑ x, π x * mhMatrix q a x y = π y := by
  have h : ∀ x, π x * (q x y * a x y) = π y * (q y x * a y x) := fun x => by
    rw [← mul_assoc, hdb, mul_assoc]
  simp only [mhMatrix_apply, mul_add, mul_ite, mul_zero, Finset.sum_add_distrib, h,
    Finset.sum_ite_eq', Finset.mem_univ, if_true, ← Finset.mul_sum]
  ring

end Finite
end MTfitVerif.Stationary
