import MTfitVerif.Model.PostProc
import MTfitVerif.Real.Inst
import MTfitVerif.Real.MatricesLemmas
/-
  Post-processing (`Model/PostProc.lean`): `select_eq_some` characterises `select`; `wmean` is `wsum`
  over the total; `maxL` returns a member that bounds the list; `insertTok` keeps the keys sorted (on
  the keys it is `Matrices.insertSorted`) and the counts exact (`uniqueCounts` inserts one token after
  the other); `project` on the lower hemisphere, with the half-angle identities for the two radii.
-/
namespace MTfitVerif.PostProc

/-! ### `select` -/

theorem select_nil {β : Type} (l : List β) : select l [] = some [] := by
  simp [select]

theorem select_cons {β : Type} (l : List β) (i : Nat) (idx : List Nat) :
    select l (i :: idx) = (l[i]?).bind fun a => (select l idx).bind fun r => some (a :: r) := by
  simp [select, List.mapM_cons]

theorem select_eq_some {β : Type} (l : List β) (idx : List Nat) (r : List β) :
    select l idx = some r ↔ idx.map (l[·]?) = r.map some := by
  induction idx generalizing r with
  | nil => cases r <;> simp [select_nil]
  | cons i idx ih =>
    rw [select_cons]
    cases r with
    | nil => cases l[i]? <;> cases select l idx <;> simp
    | cons a r =>
      rw [List.map_cons, List.map_cons, List.cons.injEq, ← ih]
      cases l[i]? <;> cases select l idx <;> simp

theorem select_zip {β γ : Type} {l₁ : List β} {l₂ : List γ} {idx : List Nat} {r₁ : List β} {r₂ : List γ}
    (h₁ : select l₁ idx = some r₁) (h₂ : select l₂ idx = some r₂) :
    select (List.zip l₁ l₂) idx = some (List.zip r₁ r₂) := by
  rw [select_eq_some] at *
  induction idx generalizing r₁ r₂ with
  | nil =>
    rw [List.map_nil, eq_comm, List.map_eq_nil_iff] at h₁ h₂
    rw [h₁, h₂]; rfl
  | cons i idx ih =>
    cases r₁ with
    | nil => cases h₁
    | cons a r₁ =>
      cases r₂ with
      | nil => cases h₂
      | cons b r₂ =>
        rw [List.map_cons, List.map_cons, List.cons.injEq] at h₁ h₂
        rw [List.map_cons, List.zip_cons_cons, List.map_cons, ih h₁.2 h₂.2,
          (List.getElem?_zip_eq_some (z := (a, b))).mpr ⟨h₁.1, h₂.1⟩]

/-! ### weighted mean -/

/-- `Σ mᵢ pᵢ`, the numerator of `wmean` -/
noncomputable def wsum (ps ms : List ℝ) : ℝ := ((List.zip ms ps).map fun q => q.1 * q.2).sum

theorem wsum_cons (p m : ℝ) (ps ms : List ℝ) : wsum (p :: ps) (m :: ms) = m * p + wsum ps ms := rfl

theorem wmean_eq (ps ms : List ℝ) : wmean ps ms = wsum ps ms / ps.sum := by
  simp [wmean, sumL_eq, wsum]

theorem wsum_const (ps : List ℝ) (v : ℝ) : wsum ps (ps.map fun _ => v) = v * ps.sum := by
  induction ps with
  | nil => exact (mul_zero v).symm
  | cons p ps ih => rw [List.map_cons, wsum_cons, ih, List.sum_cons, mul_add]

theorem wsum_scale (k : ℝ) (ps ms : List ℝ) : wsum (ps.map (k * ·)) ms = k * wsum ps ms := by
  rw [wsum, wsum, List.zip_map_right, List.map_map, ← List.sum_map_mul_left]
  exact congrArg List.sum (List.map_congr_left fun q _ => mul_left_comm _ _ _)

/-! ### maximum probability -/

theorem maxL_nil : maxL ([] : List ℝ) = none := rfl

theorem maxL_cons (x : ℝ) (xs : List ℝ) :
    maxL (x :: xs) = some (match maxL xs with | none => x | some m => max x m) := by
  rw [maxL]; cases maxL xs <;> simp [fmax_eq]

theorem maxL_eq_maximum (ps : List ℝ) : (maxL ps : WithBot ℝ) = ps.maximum := by
  induction ps with
  | nil => rfl
  | cons x xs ih =>
    rw [maxL_cons, List.maximum_cons, ← ih]
    cases maxL xs with
    | none => exact (max_bot_right (a := (x : WithBot ℝ))).symm
    | some m => exact WithBot.coe_max x m

theorem maxL_eq_none_iff (ps : List ℝ) : maxL ps = none ↔ ps = [] :=
  (maxL_eq_maximum ps).symm ▸ List.maximum_eq_bot (l := ps)

theorem maxL_spec {ps : List ℝ} {m : ℝ} (h : maxL ps = some m) : m ∈ ps ∧ ∀ x ∈ ps, x ≤ m :=
  List.maximum_eq_coe_iff.mp ((maxL_eq_maximum ps).symm.trans h)

theorem maxL_getD {ps : List ℝ} {m : ℝ} (h : maxL ps = some m) :
    (∃ j, j < ps.length ∧ ps.getD j 0 = m) ∧ ∀ j, j < ps.length → ps.getD j 0 ≤ m := by
  have hg : ∀ {j}, (hj : j < ps.length) → ps.getD j 0 = ps[j] := fun hj => by simp [hj]
  obtain ⟨hmem, hmax⟩ := maxL_spec h
  obtain ⟨j, hj, rfl⟩ := List.getElem_of_mem hmem
  exact ⟨⟨j, hj, hg hj⟩, fun k hk => hg hk ▸ hmax _ (List.getElem_mem hk)⟩

/-! ### unique columns with counts -/

theorem insertTok_nil (x : Nat) : insertTok x [] = [(x, 1)] := rfl

theorem insertTok_cons (x y n : Nat) (ys : List (Nat × Nat)) :
    insertTok x ((y, n) :: ys) =
      if x < y then (x, 1) :: (y, n) :: ys else if x = y then (y, n + 1) :: ys
      else (y, n) :: insertTok x ys := rfl

theorem keys_insertTok (x : Nat) (l : List (Nat × Nat)) :
    (insertTok x l).map (·.1) = Matrices.insertSorted x (l.map (·.1)) := by
  fun_induction insertTok x l with
  | case1 => rfl
  | case2 y n ys h => exact (if_pos h).symm
  | case3 n ys h => exact ((if_neg h).trans (if_pos rfl)).symm
  | case4 y n ys h1 h2 ih => exact (congrArg (y :: ·) ih).trans ((if_neg h1).trans (if_neg h2)).symm

theorem mem_keys_insertTok (x a : Nat) (l : List (Nat × Nat)) :
    a ∈ (insertTok x l).map (·.1) ↔ a = x ∨ a ∈ l.map (·.1) :=
  keys_insertTok x l ▸ Matrices.mem_insertSorted

theorem insertTok_sorted (x : Nat) (l : List (Nat × Nat)) (hs : (l.map (·.1)).Pairwise (· < ·)) :
    ((insertTok x l).map (·.1)).Pairwise (· < ·) :=
  keys_insertTok x l ▸ Matrices.pairwise_insertSorted hs

theorem lookup_cons_ite (a k b : Nat) (l : List (Nat × Nat)) :
    ((k, b) :: l).lookup a = if a = k then some b else l.lookup a := by
  rw [List.lookup_cons]
  by_cases h : a = k
  · rw [if_pos h, beq_iff_eq.2 h]
  · rw [if_neg h, beq_false_of_ne h]

theorem lookup_insertTok (x a : Nat) (l : List (Nat × Nat)) (hs : (l.map (·.1)).Pairwise (· < ·)) :
    ((insertTok x l).lookup a).getD 0 = (l.lookup a).getD 0 + if a = x then 1 else 0 := by
  fun_induction insertTok x l with
  | case1 => rw [lookup_cons_ite]; split <;> rfl
  | case2 y n ys h1 =>
    rw [lookup_cons_ite]
    split
    next h3 =>
      subst h3
      have hlt : ∀ p ∈ (y, n) :: ys, a < p.1 := fun p hp => by
        rcases List.mem_cons.mp hp with rfl | hp
        · exact h1
        · exact h1.trans ((List.pairwise_cons.mp hs).1 p.1 (List.mem_map_of_mem hp))
      rw [List.lookup_eq_none_iff.mpr fun p hp => bne_iff_ne.mpr (hlt p hp).ne]
      rfl
    next => rfl
  | case3 n ys =>
    rw [lookup_cons_ite, lookup_cons_ite]
    split
    · exact Nat.add_comm _ _ ▸ rfl
    · rfl
  | case4 y n ys h1 h2 ih =>
    rw [lookup_cons_ite, lookup_cons_ite]
    split
    next hay => rw [if_neg (fun e : a = x => h2 (e.symm.trans hay))]; rfl
    next => exact ih (List.pairwise_cons.mp hs).2

theorem insertTok_sum (x : Nat) (l : List (Nat × Nat)) :
    ((insertTok x l).map (·.2)).sum = (l.map (·.2)).sum + 1 := by
  fun_induction insertTok x l with
  | case1 => rfl
  | case2 y n ys h => exact Nat.add_comm 1 _
  | case3 n ys => exact Nat.add_right_comm n 1 _
  | case4 y n ys h1 h2 ih => exact congrArg (n + ·) ih

theorem uniqueCounts_nil : uniqueCounts [] = [] := rfl
theorem uniqueCounts_cons (x : Nat) (xs : List Nat) :
    uniqueCounts (x :: xs) = insertTok x (uniqueCounts xs) := rfl

/-! ### projections -/

theorem project_lower_shown (area bp : Bool) {x y z : ℝ} (hz : 0 ≤ z) :
    project area true false bp x y z =
      some (x * (if area then Real.sqrt (2 / (1 + z)) else 1 / (1 + z)),
            y * (if area then Real.sqrt (2 / (1 + z)) else 1 / (1 + z))) := by
  have h1 : ¬ z < 0 := not_lt.mpr hz
  have h2 : (1 : ℝ) + z ≠ 0 := by linarith
  simp [project, h1, h2]

theorem radius_sq {x y z : ℝ} (hu : x^2 + y^2 + z^2 = 1) (k : ℝ) :
    (x * k) ^ 2 + (y * k) ^ 2 = (1 - z) * ((1 + z) * k ^ 2) := by
  linear_combination k ^ 2 * hu

theorem one_sub_cos (t : ℝ) : 1 - Real.cos t = 2 * Real.sin (t / 2) ^ 2 := by
  rw [Real.sin_sq_eq_half_sub, mul_div_cancel₀ t two_ne_zero]; ring

theorem one_add_cos (t : ℝ) : 1 + Real.cos t = 2 * Real.cos (t / 2) ^ 2 := by
  rw [Real.cos_sq, mul_div_cancel₀ t two_ne_zero]; ring

end MTfitVerif.PostProc
