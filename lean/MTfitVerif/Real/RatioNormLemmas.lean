import MTfitVerif.Real.GaussianRealLemmas
/-
  Analytic lemmas for C03 (normalisation): the Gaussian density integrates to one, the inner
  `z`-integral of the ratio kernel `|y| φ(z y; μx, σx) φ(y; μy, σy)` is `φ(y; μy, σy)` for `y ≠ 0`,
  the kernel is integrable on the plane, and the Fubini swap.  The `y`-integral of the kernel is
  `ratioPdf` (`C03.ratioPdf_eq_integral_kernel`).
-/
namespace MTfitVerif.RatioNorm
open Real MeasureTheory ProbabilityTheory

/-- density of `N(μ, σ²)` at `x` (same expression as `C03.gaussDensity`) -/
noncomputable def gd (x μ σ : ℝ) : ℝ :=
  Real.exp (-(x - μ)^2 / (2 * σ^2)) / (σ * √(2 * π))

theorem gd_fun_eq {σ : ℝ} (hσ : 0 < σ) (μ : ℝ) :
    (fun x => gd x μ σ) = gaussianPDFReal μ (sqNN σ) :=
  funext fun x => (gaussianPDFReal_sqNN hσ μ x).symm

theorem integrable_gd {σ : ℝ} (hσ : 0 < σ) (μ : ℝ) : Integrable fun x => gd x μ σ := by
  rw [gd_fun_eq hσ]; exact integrable_gaussianPDFReal _ _

theorem integral_gd {σ : ℝ} (hσ : 0 < σ) (μ : ℝ) : ∫ x : ℝ, gd x μ σ = 1 := by
  rw [gd_fun_eq hσ]
  exact integral_gaussianPDFReal_eq_one _ (sqNN_ne_zero hσ)

/-- the ratio kernel on the plane, `(z, y) ↦ |y| φ(z y; μx, σx) φ(y; μy, σy)` -/
noncomputable def kernel (μx μy σx σy : ℝ) (p : ℝ × ℝ) : ℝ :=
  |p.2| * gd (p.1 * p.2) μx σx * gd p.2 μy σy

theorem kernel_nonneg (μx μy : ℝ) {σx σy : ℝ} (hx : 0 < σx) (hy : 0 < σy) (p : ℝ × ℝ) :
    0 ≤ kernel μx μy σx σy p := by
  unfold kernel gd
  positivity

theorem continuous_kernel (μx μy σx σy : ℝ) : Continuous (kernel μx μy σx σy) := by
  unfold kernel gd
  fun_prop

theorem integrable_kernel_left (μx μy : ℝ) {σx σy : ℝ} (hx : 0 < σx) (y : ℝ) :
    Integrable fun z : ℝ => kernel μx μy σx σy (z, y) := by
  unfold kernel
  simp only
  rcases eq_or_ne y 0 with rfl | hy0
  · simp
  · exact (((integrable_gd hx μx).comp_mul_right' hy0).const_mul |y|).mul_const _

theorem integral_abs_mul_gd_comp_mul {σ : ℝ} (hσ : 0 < σ) (μ : ℝ) {y : ℝ} (hy0 : y ≠ 0) :
    ∫ z : ℝ, |y| * gd (z * y) μ σ = 1 := by
  rw [integral_const_mul, Measure.integral_comp_mul_right (fun u => gd u μ σ) y, integral_gd hσ,
    abs_inv, smul_eq_mul, mul_one, mul_inv_cancel₀ (abs_ne_zero.mpr hy0)]

theorem integral_kernel_left_ae (μx μy σy : ℝ) {σx : ℝ} (hx : 0 < σx) :
    (fun y : ℝ => ∫ z : ℝ, kernel μx μy σx σy (z, y)) =ᵐ[volume] fun y => gd y μy σy := by
  filter_upwards [(volume : Measure ℝ).ae_ne 0] with y hy0
  unfold kernel
  simp only
  rw [integral_mul_const, integral_abs_mul_gd_comp_mul hx μx hy0, one_mul]

theorem integrable_kernel (μx μy : ℝ) {σx σy : ℝ} (hx : 0 < σx) (hy : 0 < σy) :
    Integrable (kernel μx μy σx σy) ((volume : Measure ℝ).prod (volume : Measure ℝ)) := by
  rw [integrable_prod_iff' (continuous_kernel μx μy σx σy).aestronglyMeasurable]
  refine ⟨Filter.Eventually.of_forall fun y => integrable_kernel_left μx μy hx y, ?_⟩
  simp only [Real.norm_eq_abs, abs_of_nonneg (kernel_nonneg μx μy hx hy _)]
  exact (integrable_gd hy μy).congr (integral_kernel_left_ae μx μy σy hx).symm

theorem integral_integral_kernel (μx μy : ℝ) {σx σy : ℝ} (hx : 0 < σx) (hy : 0 < σy) :
    ∫ z : ℝ, ∫ y : ℝ, kernel μx μy σx σy (z, y) = 1 := by
  have hsw := integral_integral_swap (f := fun z y : ℝ => kernel μx μy σx σy (z, y))
    (μ := (volume : Measure ℝ)) (ν := (volume : Measure ℝ)) (integrable_kernel μx μy hx hy)
  rw [hsw, ← integral_gd hy μy]
  exact integral_congr_ae (integral_kernel_left_ae μx μy σy hx)

end MTfitVerif.RatioNorm
