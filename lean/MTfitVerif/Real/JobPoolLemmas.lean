import MTfitVerif.Model.JobPool
/-
  Helper lemmas for C16 (worker pool): list facts (filterMap / filter under `List.set`, `lookup`
  with unique keys, permutation bookkeeping) and characterisations of the enabled steps.
  Mathlib-free: only core `List` lemmas.
-/
namespace MTfitVerif
namespace JobPool
open List

/-! ### generic list lemmas -/

theorem set_split {α : Type} {x : α} (y : α) {ws : List α} {w : Nat} (h : ws[w]? = some x) :
    ∃ l₁ l₂, ws = l₁ ++ x :: l₂ ∧ ws.set w y = l₁ ++ y :: l₂ := by
  obtain ⟨hw, rfl⟩ := List.getElem?_eq_some_iff.mp h
  exact ⟨ws.take w, ws.drop (w + 1), by rw [← drop_eq_getElem_cons hw, take_append_drop],
    by rw [set_eq_take_append_cons_drop, if_pos hw]⟩

theorem filterMap_set_some {α β : Type} (f : α → Option β) {x y : α} {b : β} (hx : f x = none)
    (hy : f y = some b) {ws : List α} {w : Nat} (h : ws[w]? = some x) :
    ((ws.set w y).filterMap f).Perm (b :: ws.filterMap f) := by
  obtain ⟨l₁, l₂, rfl, e⟩ := set_split y h
  rw [e, filterMap_append, filterMap_append, filterMap_cons_some hy, filterMap_cons_none hx]
  exact perm_middle

theorem filterMap_set_none {α β : Type} (f : α → Option β) {x y : α} {b : β} (hx : f x = some b)
    (hy : f y = none) {ws : List α} {w : Nat} (h : ws[w]? = some x) :
    (ws.filterMap f).Perm (b :: (ws.set w y).filterMap f) := by
  obtain ⟨l₁, l₂, rfl, e⟩ := set_split y h
  rw [e, filterMap_append, filterMap_append, filterMap_cons_some hx, filterMap_cons_none hy]
  exact perm_middle

theorem filterMap_set_same {α β : Type} (f : α → Option β) {x y : α} (hxy : f x = f y)
    {ws : List α} {w : Nat} (h : ws[w]? = some x) : (ws.set w y).filterMap f = ws.filterMap f := by
  obtain ⟨l₁, l₂, rfl, e⟩ := set_split y h
  rw [e, filterMap_append, filterMap_append, filterMap_cons, filterMap_cons, hxy]

theorem length_filter_set {α : Type} (p : α → Bool) {x y : α} {ws : List α} {w : Nat}
    (h : ws[w]? = some x) :
    ((ws.set w y).filter p).length + (if p x then 1 else 0) =
      (ws.filter p).length + (if p y then 1 else 0) := by
  obtain ⟨l₁, l₂, rfl, e⟩ := set_split y h
  rw [e, ← countP_eq_length_filter, ← countP_eq_length_filter, countP_append, countP_append, countP_cons,
    countP_cons]
  omega

theorem length_filter_set_of_false {α : Type} (p : α → Bool) {x y : α} (hx : p x = false) (hy : p y = false)
    {ws : List α} {w : Nat} (h : ws[w]? = some x) :
    ((ws.set w y).filter p).length = (ws.filter p).length := by
  have := length_filter_set p (y := y) h
  rw [hx, hy] at this
  simpa using this

theorem length_filter_set_le {α : Type} (p : α → Bool) {x y : α} {ws : List α} {w : Nat}
    (h : ws[w]? = some x) : ((ws.set w y).filter p).length ≤ (ws.filter p).length + 1 := by
  have := length_filter_set p (y := y) h
  have hy : (if p y = true then 1 else 0) ≤ 1 := by split <;> decide
  omega

theorem lookup_eq_none_iff_not_mem {β : Type} (l : List (Nat × β)) (k : Nat) :
    l.lookup k = none ↔ k ∉ l.map (fun p => p.1) := by
  rw [lookup_eq_none_iff]
  simp only [mem_map, not_exists, not_and, bne_iff_ne, ne_eq]
  constructor
  · intro h p hp e; exact h p hp e.symm
  · intro h p hp e; exact h p hp e.symm

theorem lookup_cons_ne {β : Type} (l : List (Nat × β)) {k id : Nat} (v : β) (h : k ≠ id) :
    lookup k ((id, v) :: l) = lookup k l := by
  rw [lookup_cons, beq_false_of_ne h]

theorem lookup_of_mem_nodup {β : Type} {l : List (Nat × β)} (hn : (l.map (·.1)).Nodup) {p : Nat × β}
    (hp : p ∈ l) : l.lookup p.1 = some p.2 := by
  obtain ⟨l₁, l₂, rfl⟩ := List.append_of_mem hp
  rw [map_append, map_cons, nodup_append] at hn
  exact lookup_eq_some_iff.2 ⟨l₁, l₂, rfl, fun q hq =>
    bne_iff_ne.2 fun e => hn.2.2 _ (mem_map_of_mem hq) _ mem_cons_self e.symm⟩

theorem map_fst_filter_snd {β : Type} (l : List (Nat × β))
    (q : β → Bool) (q' : Nat → Bool) (hq : ∀ p ∈ l, q' p.1 = q p.2) :
    (l.filter (fun p => q p.2)).map (fun p => p.1) = (l.map (fun p => p.1)).filter q' := by
  rw [filter_map]
  congr 1
  apply filter_congr
  intro p hp
  simp [hq p hp]

theorem filter_append_eq_left {α : Type} (q : α → Bool) (l₁ l₂ : List α) (h₁ : ∀ a ∈ l₁, q a = true)
    (h₂ : ∀ a ∈ l₂, q a = false) : (l₁ ++ l₂).filter q = l₁ := by
  rw [filter_append, filter_eq_self.mpr h₁, filter_eq_nil_iff.mpr (by intro a ha; simp [h₂ a ha])]
  simp

/-! ### permutation bookkeeping

  An id moves from one place (task queue, running, result queue, collected, skipped) to another:
  both sides are `id ::` the same list. -/

theorem perm_append_cons {A X X' : List Nat} {id : Nat} (h : X.Perm (id :: X')) :
    (A ++ X).Perm (id :: (A ++ X')) :=
  (Perm.append_left A h).trans perm_middle

theorem take_perm {T R R' : List Nat} {id : Nat} (hid : id ∈ T) (hR : R'.Perm (id :: R)) :
    (T.erase id ++ R').Perm (T ++ R) :=
  (perm_append_cons hR).trans ((perm_cons_erase hid).symm.append_right R)

theorem finish_perm {T R R' Q : List Nat} {id : Nat} (hR : R.Perm (id :: R')) :
    (T ++ R' ++ id :: Q).Perm (T ++ R ++ Q) :=
  perm_middle.trans ((perm_append_cons hR).append_right Q).symm

theorem collect_perm_skipped {A Q C S : List Nat} {id : Nat} (hid : id ∈ Q) :
    (A ++ Q.erase id ++ C ++ id :: S).Perm (A ++ Q ++ C ++ S) :=
  perm_middle.trans (((perm_append_cons (perm_cons_erase hid)).append_right C).append_right S).symm

theorem collect_perm_collected {A Q C S : List Nat} {id : Nat} (hid : id ∈ Q) :
    (A ++ Q.erase id ++ id :: C ++ S).Perm (A ++ Q ++ C ++ S) :=
  (perm_middle.trans ((perm_append_cons (perm_cons_erase hid)).append_right C).symm).append_right S

/-! ### the running ids -/

/-- task id carried by a worker state -/
def rid : WState → Option Nat
  | .running id => some id
  | _ => none

@[simp] theorem rid_idle : rid .idle = none := rfl
@[simp] theorem rid_dead : rid .dead = none := rfl
@[simp] theorem rid_exited : rid .exited = none := rfl
@[simp] theorem rid_running (id : Nat) : rid (.running id) = some id := rfl

theorem rid_dead_or_idle (c : Prop) [Decidable c] : rid (if c then WState.dead else .idle) = none := by
  split <;> rfl

theorem rid_some {x : WState} {id : Nat} (h : rid x = some id) : x = .running id := by
  cases x <;> simp [rid] at h
  rw [h]

theorem running_eq (s : State) : running s = s.workers.filterMap rid := rfl

/-- worker replacement used by `clean` -/
def revive (w : WState) : WState := if w = .dead then .idle else w

theorem rid_revive (w : WState) : rid (revive w) = rid w := by
  cases w <;> simp [revive]

theorem revive_ne_dead (w : WState) : revive w ≠ .dead := by
  cases w <;> simp [revive]

theorem filterMap_rid_map_revive (ws : List WState) :
    (ws.map revive).filterMap rid = ws.filterMap rid := by
  rw [filterMap_map]
  congr 1
  funext w
  exact rid_revive w

theorem exists_running_index {ws : List WState} (h : ws.filterMap rid ≠ []) :
    ∃ (w id : Nat), ws[w]? = some (WState.running id) := by
  obtain ⟨id, hid⟩ := exists_mem_of_ne_nil _ h
  obtain ⟨x, hx, hr⟩ := mem_filterMap.mp hid
  rw [rid_some hr] at hx
  obtain ⟨w, hw⟩ := mem_iff_getElem?.mp hx
  exact ⟨w, id, hw⟩

/-! ### characterisation of the enabled steps -/

theorem step_submit {s s' : State} {id : Nat} {k : Kind} (h : step s (.submit id k) = some s') :
    s.kinds.lookup id = none ∧
      s' = { s with kinds := (id, k) :: s.kinds, taskQ := id :: s.taskQ, numberJobs := s.numberJobs + 1 } := by
  obtain ⟨hg, h⟩ := Option.ite_none_left_eq_some.mp h
  exact ⟨Option.not_isSome_iff_eq_none.mp hg, (Option.some.inj h).symm⟩

theorem step_take {s s' : State} {w id : Nat} (h : step s (.take w id) = some s') :
    s.workers[w]? = some .idle ∧ id ∈ s.taskQ ∧
      s' = { s with taskQ := s.taskQ.erase id, workers := s.workers.set w (.running id) } := by
  obtain ⟨⟨hw, hid⟩, h⟩ := Option.ite_some_none_eq_some.mp h
  exact ⟨hw, hid, h.symm⟩

theorem step_take_enabled {s : State} {w id : Nat} (hw : s.workers[w]? = some .idle) (hid : id ∈ s.taskQ) :
    step s (.take w id) =
      some { s with taskQ := s.taskQ.erase id, workers := s.workers.set w (.running id) } :=
  if_pos ⟨hw, hid⟩

theorem step_finish {s s' : State} {w : Nat} (h : step s (.finish w) = some s') :
    ∃ id, s.workers[w]? = some (.running id) ∧
      s' = { s with resultQ := id :: s.resultQ,
                    workers := s.workers.set w (if kindOf s id = some .raise then .dead else .idle) } := by
  dsimp only [step] at h
  split at h
  · exact ⟨_, ‹_›, (Option.some.inj h).symm⟩
  · cases h

theorem step_finish_enabled {s : State} {w id : Nat} (hw : s.workers[w]? = some (.running id)) :
    step s (.finish w) =
      some { s with resultQ := id :: s.resultQ,
                    workers := s.workers.set w (if kindOf s id = some .raise then .dead else .idle) } := by
  dsimp only [step]
  rw [hw]
  rfl

theorem step_collect {s s' : State} {id : Nat} (h : step s (.collect id) = some s') :
    id ∈ s.resultQ ∧ 0 < s.numberJobs ∧
      ((kindOf s id = some .code ∧
          s' = { s with resultQ := s.resultQ.erase id, numberJobs := s.numberJobs - 1,
                        skipped := id :: s.skipped }) ∨
       (kindOf s id ≠ some .code ∧
          s' = { s with resultQ := s.resultQ.erase id, numberJobs := s.numberJobs - 1,
                        collected := id :: s.collected })) := by
  obtain ⟨⟨hid, hj⟩, h⟩ := Option.ite_none_right_eq_some.mp h
  refine ⟨hid, hj, ?_⟩
  split at h
  · exact Or.inl ⟨‹_›, (Option.some.inj h).symm⟩
  · exact Or.inr ⟨‹_›, (Option.some.inj h).symm⟩

theorem step_clean {s s' : State} (h : step s .clean = some s') :
    s' = { s with workers := s.workers.map revive } :=
  (Option.some.inj h).symm

theorem step_close {s s' : State} (h : step s .close = some s') :
    s' = { s with pills := s.pills + s.workers.length } :=
  (Option.some.inj h).symm

theorem step_takePill {s s' : State} {w : Nat} (h : step s (.takePill w) = some s') :
    s.workers[w]? = some .idle ∧ 0 < s.pills ∧
      s' = { s with pills := s.pills - 1, workers := s.workers.set w .exited } := by
  obtain ⟨⟨hw, hp⟩, h⟩ := Option.ite_some_none_eq_some.mp h
  exact ⟨hw, hp, h.symm⟩

theorem step_takePill_enabled {s : State} {w : Nat} (hw : s.workers[w]? = some .idle) (hp : 0 < s.pills) :
    step s (.takePill w) = some { s with pills := s.pills - 1, workers := s.workers.set w .exited } :=
  if_pos ⟨hw, hp⟩

/-! ### runs -/

theorem run_cons_eq_some {s s' : State} {e : Event} {es : List Event} :
    run s (e :: es) = some s' ↔ ∃ s₁, step s e = some s₁ ∧ run s₁ es = some s' :=
  Option.bind_eq_some_iff

/-! ### closing -/

/-- with `m` pills, the `m` idle workers behind any prefix `l` of the worker list take a pill each -/
theorem run_takePills (m : Nat) : ∀ (l : List WState) (s : State),
    s.workers = l ++ replicate m .idle → s.pills = m →
    ∃ s', run s ((List.range' l.length m).map .takePill) = some s' ∧
      s'.workers = l ++ replicate m .exited ∧ s'.pills = 0 := by
  induction m with
  | zero =>
    intro l s hw hp
    exact ⟨s, rfl, hw, hp⟩
  | succ m ih =>
    intro l s hw hp
    have hk : s.workers[l.length]? = some .idle := by
      rw [hw, getElem?_append_right (Nat.le_refl _), Nat.sub_self]
      rfl
    have hset : s.workers.set l.length .exited = (l ++ [.exited]) ++ replicate m .idle := by
      rw [hw, set_append_right _ _ (Nat.le_refl _), Nat.sub_self, append_assoc]
      rfl
    obtain ⟨s', hr, hw', hp'⟩ := ih (l ++ [.exited])
      { s with pills := s.pills - 1, workers := s.workers.set l.length .exited } hset
      (by show s.pills - 1 = m; omega)
    rw [length_append, length_singleton] at hr
    refine ⟨s', ?_, ?_, hp'⟩
    · rw [range'_succ, map_cons, run, step_takePill_enabled hk (by omega)]
      exact hr
    · rw [hw', append_assoc]
      rfl

end JobPool
end MTfitVerif
