import MTfitVerif.Model.RandomMT
import MTfitVerif.Real.ConvertLemmasLune
/-
  The random source samplers over ℝ: the six-vector norm, the defining equations of `randomMt`,
  `triad`, `eigvecsToMt6`, `randomType`, and the eigenvalue patterns as literal triples.
-/
namespace MTfitVerif.RandomMT
open MTfitVerif.Convert

/-- squared six-vector norm, in the `x * x` form used by `V6.norm` -/
def sqs (v : V6 ℝ) : ℝ := v.a * v.a + v.b * v.b + v.c * v.c + v.d * v.d + v.e * v.e + v.f * v.f

theorem sqs_nonneg (v : V6 ℝ) : 0 ≤ sqs v := by
  simp only [sqs, ← pow_two]; positivity

theorem v6_norm_eq (v : V6 ℝ) : v.norm = √(sqs v) := rfl

theorem v6_norm_sq (v : V6 ℝ) : v.norm ^ 2 = sqs v := by
  rw [v6_norm_eq, Real.sq_sqrt (sqs_nonneg v)]

theorem v6_norm_scale (v : V6 ℝ) {k : ℝ} (hk : 0 ≤ k) :
    (⟨k * v.a, k * v.b, k * v.c, k * v.d, k * v.e, k * v.f⟩ : V6 ℝ).norm = k * v.norm := by
  rw [v6_norm_eq, v6_norm_eq]
  have : sqs ⟨k * v.a, k * v.b, k * v.c, k * v.d, k * v.e, k * v.f⟩ = k * k * sqs v := by
    simp only [sqs]; ring
  rw [this, Real.sqrt_mul (mul_self_nonneg k), Real.sqrt_mul_self hk]

theorem randomMt_eq (v : V6 ℝ) :
    randomMt v = ⟨v.a / v.norm, v.b / v.norm, v.c / v.norm, v.d / v.norm, v.e / v.norm, v.f / v.norm⟩ := rfl

theorem dot_sdiv_left (a w : V3 ℝ) (k : ℝ) : V3.dot (V3.sdiv w k) a = V3.dot w a / k :=
  V3.dot_sdiv_left w a k

theorem triad_eq (araw x : V3 ℝ) :
    triad araw x = (araw.unit, (V3.cross araw.unit x).unit,
      (V3.cross araw.unit (V3.cross araw.unit x).unit).unit) := rfl

theorem eigvecsToMt6_eq (diag a b cc : V3 ℝ) :
    eigvecsToMt6 diag a b cc = randomMt (lune_raw6 (rebuild a b cc diag)) := by
  rw [randomMt_eq]; exact mt33ToMt6_eq _

/-- normalising the tensor is normalising its eigenvalues -/
theorem eigvecsToMt6_eq_sdiv (diag a b cc : V3 ℝ) : eigvecsToMt6 diag a b cc =
    lune_raw6 (rebuild a b cc (V3.sdiv diag (lune_raw6 (rebuild a b cc diag)).norm)) := by
  rw [eigvecsToMt6_eq, randomMt_eq]
  generalize (lune_raw6 (rebuild a b cc diag)).norm = n
  simp only [lune_raw6, rebuild, V3.sdiv, mul_div_assoc, add_div, div_mul_eq_mul_div]

theorem randomType_eq (diag a x : V3 ℝ) :
    randomType diag a x = eigvecsToMt6 diag (triad a x).1 (triad a x).2.1 (triad a x).2.2 := rfl

theorem dcDiag_eq : (dcDiag : V3 ℝ) = ⟨1 / √2, 0, -(1 / √2)⟩ := by
  simp only [dcDiag, flt_sqrt, flt_c, Nat.cast_ofNat, Nat.cast_one, Nat.cast_zero, neg_div]

theorem clvdDiag_eq (u : ℝ) : clvdDiag u =
    if (0.5 : ℝ) < u then ⟨2 / √6, -(1 / √6), -(1 / √6)⟩ else ⟨-(2 / √6), 1 / √6, 1 / √6⟩ := by
  simp only [clvdDiag, flt_ltb, flt_sci, flt_sqrt, flt_c, Nat.cast_ofNat, Nat.cast_one, neg_div,
    decide_eq_true_eq]

end MTfitVerif.RandomMT
