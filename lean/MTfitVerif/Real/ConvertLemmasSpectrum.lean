import MTfitVerif.Real.ConvertLemmasLune
/-
  Hudson coordinates over ℝ: `eToTk` through `tkOf` on the isotropic and deviatoric parts (scale invariance,
  `|τ| + |k| ≤ 1` for a descending spectrum), `tkToUv` (`|u| ≤ 4/3`, `|v| ≤ 1`), and the crack + double-couple
  maps with the identity behind their round trip.
-/
namespace MTfitVerif.Convert
open Real

/-- `eToTk` in terms of the isotropic part `i` and the deviatoric parts `d0`, `d1`, `d2` of `e.x`, `e.z`, `e.y` -/
noncomputable def tkOf (i d0 d1 d2 : ℝ) : ℝ × ℝ :=
  if 0 < d2 then (-2 * d2 / d1 * (1 - |i / (|i| - d1)|), i / (|i| - d1))
  else if d2 < 0 then (2 * d2 / d0 * (1 - |i / (|i| + d0)|), i / (|i| + d0))
  else (0, i / (|i| + d0))

theorem eToTk_eq (e : V3 ℝ) : eToTk e = tkOf ((e.x + e.z + e.y) / 3) (e.x - (e.x + e.z + e.y) / 3)
    (e.z - (e.x + e.z + e.y) / 3) (e.y - (e.x + e.z + e.y) / 3) := by
  simp only [eToTk, tkOf, flt_ltb, flt_c, flt_abs, decide_eq_true_eq, Nat.cast_ofNat, Nat.cast_zero, Nat.cast_one]
  split_ifs <;> simp only [zero_mul]

theorem tkOf_scale (i d0 d1 d2 : ℝ) {k : ℝ} (hk : 0 < k) :
    tkOf (k * i) (k * d0) (k * d1) (k * d2) = tkOf i d0 d1 d2 := by
  simp only [tkOf, mul_pos_iff_of_pos_left hk, mul_neg_iff_of_pos_left hk, abs_mul, abs_of_pos hk, ← mul_sub,
    ← mul_add, mul_div_mul_left _ _ hk.ne', mul_left_comm _ k]

theorem eToTk_scale (e : V3 ℝ) {k : ℝ} (hk : 0 < k) : eToTk (V3.smul k e) = eToTk e := by
  rw [eToTk_eq, eToTk_eq, ← tkOf_scale ((e.x + e.z + e.y) / 3) _ _ _ hk]
  simp only [V3.smul]
  congr 1 <;> ring

theorem tkOf_abs_le_aux {T k : ℝ} (hT : |T| ≤ 1) (hk : |k| ≤ 1) : |T * (1 - |k|)| + |k| ≤ 1 := by
  rw [abs_mul, abs_of_nonneg (sub_nonneg.mpr hk)]
  linarith [mul_le_of_le_one_left (sub_nonneg.mpr hk) hT]

theorem abs_ratio_le_one {i D : ℝ} (hD : 0 ≤ D) : |i / (|i| + D)| ≤ 1 := by
  have h := add_nonneg (abs_nonneg i) hD
  rw [abs_div, abs_of_nonneg h]
  exact div_le_one_of_le₀ (le_add_of_nonneg_right hD) h

theorem tkOf_abs_le {i d0 d1 d2 : ℝ} (h12 : d1 ≤ d2) (h20 : d2 ≤ d0) (hs : d0 + d1 + d2 = 0) :
    |(tkOf i d0 d1 d2).1| + |(tkOf i d0 d1 d2).2| ≤ 1 := by
  have h0 : 0 ≤ d0 := by linarith
  have h1 : d1 ≤ 0 := by linarith
  unfold tkOf
  split_ifs with c1 c2
  · refine tkOf_abs_le_aux ?_ (by simpa only [sub_eq_add_neg] using abs_ratio_le_one (i := i) (neg_nonneg.mpr h1))
    rw [abs_div, abs_mul, abs_neg, abs_two, abs_of_pos c1, abs_of_nonpos h1]
    exact div_le_one_of_le₀ (by linarith) (neg_nonneg.mpr h1)
  · refine tkOf_abs_le_aux ?_ (abs_ratio_le_one h0)
    rw [abs_div, abs_mul, abs_two, abs_of_neg c2, abs_of_nonneg h0]
    exact div_le_one_of_le₀ (by linarith) h0
  · simpa only [abs_zero, zero_add] using abs_ratio_le_one h0

theorem eToTk_abs_le {e : V3 ℝ} (h1 : e.y ≤ e.x) (h2 : e.z ≤ e.y) :
    |(eToTk e).1| + |(eToTk e).2| ≤ 1 := by
  rw [eToTk_eq]
  exact tkOf_abs_le (sub_le_sub_right h2 _) (sub_le_sub_right h1 _) (by ring)

theorem tkToUv_bounds_aux {x y D : ℝ} (hx : |x| ≤ 4 / 3 * D) (hy : |y| ≤ D) : |x / D| ≤ 4 / 3 ∧ |y / D| ≤ 1 := by
  have hD : 0 ≤ D := (abs_nonneg y).trans hy
  rw [abs_div, abs_div, abs_of_nonneg hD]
  exact ⟨div_le_of_le_mul₀ hD (by norm_num) hx, div_le_one_of_le₀ hy hD⟩

/-- `D` is the denominator `1 ∓ τ/2` that `tkToUv` takes where `τ`, `k` have the same sign and `|τ| < 4|k|` -/
theorem tkToUv_bounds_tau {τ k D : ℝ} (h : |τ| + |k| ≤ 1) (hab : |τ| ≤ 4 * |k|) (hD : D = 1 - |τ| / 2) :
    |τ / D| ≤ 4 / 3 ∧ |k / D| ≤ 1 := by
  subst hD
  exact tkToUv_bounds_aux (by linarith) (by linarith [abs_nonneg τ])

/-- the denominator `1 ∓ 2k`, taken where `4|k| ≤ |τ|` -/
theorem tkToUv_bounds_k {τ k D : ℝ} (h : |τ| + |k| ≤ 1) (hab : 4 * |k| ≤ |τ|) (hD : D = 1 - 2 * |k|) :
    |τ / D| ≤ 4 / 3 ∧ |k / D| ≤ 1 := by
  subst hD
  exact tkToUv_bounds_aux (by linarith) (by linarith [abs_nonneg k])

theorem tkToUv_bounds {τ k : ℝ} (h : |τ| + |k| ≤ 1) :
    |(tkToUv τ k).1| ≤ 4 / 3 ∧ |(tkToUv τ k).2| ≤ 1 := by
  simp only [tkToUv, flt_ltb, flt_c, decide_eq_true_eq, Nat.cast_ofNat, Nat.cast_zero, Nat.cast_one,
    Bool.and_eq_true]
  split_ifs with c1 c2 c3 c4
  · exact tkToUv_bounds_tau h (by rw [abs_of_pos c1.1, abs_of_pos c1.2]; exact c2.le) (by rw [abs_of_pos c1.1])
  · exact tkToUv_bounds_k h (by rw [abs_of_pos c1.1, abs_of_pos c1.2]; exact not_lt.mp c2) (by rw [abs_of_pos c1.2])
  · exact tkToUv_bounds_tau h (by rw [abs_of_neg c3.1, abs_of_neg c3.2]; linarith) (by rw [abs_of_neg c3.1, neg_div, sub_neg_eq_add])
  · exact tkToUv_bounds_k h (by rw [abs_of_neg c3.1, abs_of_neg c3.2]; linarith) (by rw [abs_of_neg c3.2, mul_neg, sub_neg_eq_add])
  · exact ⟨((le_add_of_nonneg_right (abs_nonneg k)).trans h).trans (by norm_num),
      (le_add_of_nonneg_left (abs_nonneg τ)).trans h⟩

theorem tkToUv_zero_left (k : ℝ) : tkToUv 0 k = (0, k) := by
  simp only [tkToUv, flt_ltb, flt_c, Nat.cast_zero, lt_self_iff_false, decide_false, Bool.false_and,
    Bool.false_eq_true, if_false]

theorem tkToUv_zero_right (τ : ℝ) : tkToUv τ 0 = (τ, 0) := by
  simp only [tkToUv, flt_ltb, flt_c, Nat.cast_zero, lt_self_iff_false, decide_false, Bool.and_false,
    Bool.false_eq_true, if_false]

theorem gdToCdc_eq (γ δ : ℝ) : gdToCdc γ δ =
    (arccos (-√3 * tan γ), (1 + √2 * (tan (π / 2 - δ) * sin γ)) / (2 - √2 * (tan (π / 2 - δ) * sin γ))) := by
  simp only [gdToCdc, flt_acos, flt_sqrt, flt_c, flt_tan, flt_pi, flt_sin, Nat.cast_ofNat, Nat.cast_one]

theorem cdcToGd_of_ne {a ν : ℝ} (h : a ≠ π / 2) : cdcToGd a ν =
    (arctan (-1 / √3 * cos a), π / 2 - arccos (√(2 / 3) * cos a * (1 + ν) /
      √((1 - 2 * ν) * (1 - 2 * ν) + cos a * cos a * (1 + 2 * ν * ν)))) := by
  simp only [cdcToGd, flt_atan, flt_c, flt_sqrt, flt_cos, flt_eqb, flt_pi, flt_acos, Nat.cast_ofNat, Nat.cast_one, h,
    decide_false, Bool.false_eq_true, if_false]

theorem cdc_t_identity {c ν : ℝ} (hc : 0 < c) (hν0 : -1 < ν) (hν1 : ν < 1 / 2) :
    √2 * (tan (arccos (√(2 / 3) * c * (1 + ν) / √((1 - 2 * ν) * (1 - 2 * ν) + c * c * (1 + 2 * ν * ν))))
      * sin (arctan (-1 / √3 * c))) = -(1 - 2 * ν) / (1 + ν) := by
  have h3 : √3 ^ 2 = 3 := Real.sq_sqrt (by norm_num)
  have h23 : √(2 / 3) ^ 2 = 2 / 3 := Real.sq_sqrt (by norm_num)
  have hν' : 0 < 1 + ν := by linarith
  have hν'' : 0 < 1 - 2 * ν := by linarith
  have hR : 0 < 1 + c ^ 2 / 3 := by positivity
  have hR2 := Real.sq_sqrt hR.le
  -- a right triangle: the radicand is the squared cosine numerator plus the square of the opposite side
  have hQe : (1 - 2 * ν) * (1 - 2 * ν) + c * c * (1 + 2 * ν * ν)
      = (√(2 / 3) * c * (1 + ν)) ^ 2 + ((1 - 2 * ν) * √(1 + c ^ 2 / 3)) ^ 2 := by
    rw [mul_pow, mul_pow, mul_pow, h23, hR2]; ring
  have hQ : 0 < (1 - 2 * ν) * (1 - 2 * ν) + c * c * (1 + 2 * ν * ν) := by rw [hQe]; positivity
  rw [tan_arccos_of_hypot (Real.sqrt_pos.mpr hQ) (by positivity) ((Real.sq_sqrt hQ.le).trans hQe),
    sin_arctan_of_hypot (Real.sqrt_pos.mpr hR) (by rw [hR2, mul_pow, div_pow, h3]; ring), Real.sqrt_div (by norm_num) 3]
  have := Real.sqrt_pos.mpr hR
  field_simp

end MTfitVerif.Convert
