import MTfitVerif.Model.RatioPdf
import MTfitVerif.Real.PolarityLemmas
/-
  Helper lemmas for C03 (Hinkley ratio density): the model terms at `ℝ` as ordinary Mathlib
  terms, the `Φ(x) − Φ(−x) = erf(x/√2)` identity, the coefficient `a`, the algebra of Hinkley's
  derivation on variables (completing the square, Cauchy–Schwarz for `b² ≤ a² c`, the closed form),
  the guard `errFix` with `arPdf`, and the sign symmetries of `ratioPdf`.
-/
namespace MTfitVerif.RatioPdf
open Real

theorem coefA_eq (z σx σy : ℝ) :
    coefA z σx σy = √(z * z / (σx * σx) + 1 / (σy * σy)) := by
  simp only [coefA, flt_sqrt, flt_c, Nat.cast_one]

theorem coefB_eq (z μx μy σx σy : ℝ) :
    coefB z μx μy σx σy = μx * z / (σx * σx) + μy / (σy * σy) := rfl

theorem coefC_eq (μx μy σx σy : ℝ) :
    coefC μx μy σx σy = μx * μx / (σx * σx) + μy * μy / (σy * σy) := rfl

theorem stdCdf_eq (x : ℝ) : stdCdf x = 1 / 2 * (1 + erf (x / √2)) := by
  simp only [stdCdf, flt_half, flt_c, flt_erf, flt_sqrt, Nat.cast_one, Nat.cast_ofNat]

theorem ratioPdf_eq (z μx μy σx σy : ℝ) :
    ratioPdf z μx μy σx σy =
      coefB z μx μy σx σy *
          Real.exp ((coefB z μx μy σx σy * coefB z μx μy σx σy
              - coefC μx μy σx σy * (coefA z σx σy * coefA z σx σy))
            / (2 * (coefA z σx σy * coefA z σx σy)))
          / (√(2 * π) * (σx * σy * (coefA z σx σy * (coefA z σx σy * coefA z σx σy))))
          * (stdCdf (coefB z μx μy σx σy / coefA z σx σy)
              - stdCdf (-coefB z μx μy σx σy / coefA z σx σy))
        + 1 / (π * (σx * σy * (coefA z σx σy * coefA z σx σy)))
          * Real.exp (-coefC μx μy σx σy / 2) := by
  unfold ratioPdf
  simp only [flt_exp, flt_sqrt, flt_pi, flt_c, Nat.cast_ofNat, Nat.cast_one]

theorem stdCdf_sub_neg (x : ℝ) : stdCdf x - stdCdf (-x) = erf (x / √2) := by
  rw [stdCdf_eq, stdCdf_eq, neg_div, erf_neg]; ring

theorem mul_erf_nonneg (b : ℝ) {k : ℝ} (hk : 0 < k) : 0 ≤ b * erf (b / k) := by
  rcases le_or_gt 0 b with hb | hb
  · exact mul_nonneg hb (erf_nonneg (div_nonneg hb hk.le))
  · exact (mul_pos_of_neg_of_neg hb
      (erf_zero ▸ erf_strictMono (div_neg_of_neg_of_pos hb hk))).le

/-- `ratioPdf` with the difference of the two `Φ` written as `erf` -/
theorem ratioPdf_eq_erf (z μx μy σx σy : ℝ) :
    ratioPdf z μx μy σx σy =
      coefB z μx μy σx σy *
          Real.exp ((coefB z μx μy σx σy * coefB z μx μy σx σy - coefC μx μy σx σy * coefA z σx σy * coefA z σx σy)
            / (2 * coefA z σx σy * coefA z σx σy))
          / (√(2 * π) * (σx * σy * (coefA z σx σy * (coefA z σx σy * coefA z σx σy))))
          * erf (coefB z μx μy σx σy / (√2 * coefA z σx σy))
        + 1 / (π * (σx * σy * (coefA z σx σy * coefA z σx σy))) * Real.exp (-coefC μx μy σx σy / 2) := by
  rw [ratioPdf_eq, neg_div, stdCdf_sub_neg, div_div, mul_comm (coefA z σx σy) √2, ← mul_assoc (coefC μx μy σx σy),
    ← mul_assoc 2]

theorem coefA_arg_pos (z : ℝ) {σx σy : ℝ} (hx : 0 < σx) (hy : 0 < σy) :
    0 < z * z / (σx * σx) + 1 / (σy * σy) :=
  add_pos_of_nonneg_of_pos (div_nonneg (mul_self_nonneg z) (mul_pos hx hx).le)
    (one_div_pos.mpr (mul_pos hy hy))

theorem coefA_mul_self (z : ℝ) {σx σy : ℝ} (hx : 0 < σx) (hy : 0 < σy) :
    coefA z σx σy * coefA z σx σy = z * z / (σx * σx) + 1 / (σy * σy) := by
  rw [coefA_eq]; exact Real.mul_self_sqrt (coefA_arg_pos z hx hy).le

/-! ### Hinkley's algebra, on variables -/

theorem quadratic_complete_square {A : ℝ} (hA : A ≠ 0) (B C y : ℝ) :
    A * y ^ 2 - 2 * B * y + C = A * (y - B / A) ^ 2 + C - B ^ 2 / A := by
  field_simp
  ring

theorem d_exponent_eq {a : ℝ} (ha : a ≠ 0) (b cc : ℝ) :
    (b * b - cc * (a * a)) / (2 * (a * a)) = -(cc - b ^ 2 / a ^ 2) / 2 := by
  rw [sub_div, mul_div_mul_right _ _ (mul_ne_zero ha ha)]
  ring

/-- Cauchy–Schwarz with weights `1/s, 1/t`: the difference is an explicit square -/
theorem cauchy_schwarz (z μx μy : ℝ) {s t : ℝ} (hs : 0 < s) (ht : 0 < t) :
    (μx * z / s + μy / t) * (μx * z / s + μy / t)
      ≤ (μx * μx / s + μy * μy / t) * (z * z / s + 1 / t) := by
  refine sub_nonneg.1 ((div_nonneg (sq_nonneg (z * μy - μx)) (mul_pos hs ht).le).trans_eq ?_)
  ring

/-- the product of two Gaussian densities, `E`, `F` their exponentials -/
theorem div_mul_div_sqrt_two_pi (E F σ τ : ℝ) :
    E / (σ * √(2 * π)) * (F / (τ * √(2 * π))) = 1 / (2 * π * σ * τ) * (E * F) := by
  rw [div_mul_div_comm, mul_mul_mul_comm, Real.mul_self_sqrt (by positivity)]
  ring

/-- the exponents of two Gaussian densities after completing the square: `h` is `C03.exponent_identity`, `t` its square -/
theorem exp_neg_half_mul {P Q u v t c w : ℝ} (h : P / u + Q / v = t + c - w) :
    exp (-P / (2 * u)) * exp (-Q / (2 * v)) = exp (-(c - w) / 2) * exp (-t / 2) := by
  rw [← exp_add, ← exp_add]
  congr 1
  linear_combination (-1 / 2) * h

/-- the closed form with `q` for `√(2π)`, `R` for the `erf` value and exponents `x, y, w = x + y`.
    Both sides are `(b eˣ R / (σx σy a³)) · (1/q  resp.  q/(2π)) + eˣ eʸ / (π σx σy a²)`. -/
theorem closed_form_core {q x y w : ℝ} (hq : 1 / q = q / (2 * π)) (hw : w = x + y)
    (a b R σx σy : ℝ) :
    b * Real.exp x / (q * (σx * σy * (a * (a * a)))) * R
        + 1 / (π * (σx * σy * (a * a))) * Real.exp w
      = 1 / (2 * π * σx * σy) * Real.exp x
          * (2 / a ^ 2 * Real.exp y + b / a ^ 2 * (q / a) * R) := by
  rw [hw, Real.exp_add]
  linear_combination (b * Real.exp x * R / (σx * σy * a^3)) * hq

/-- the guard against a zero error is the one of the polarity model -/
theorem errFix_eq_abs_sigmaFix (p : ℝ) : errFix p = |Polarity.sigmaFix p| := rfl

theorem errFix_pos (p : ℝ) : 0 < errFix p :=
  abs_pos.2 (Polarity.sigmaFix_ne_zero p)

theorem errFix_of_pos {p : ℝ} (hp : 0 < p) : errFix p = p := by
  rw [errFix_eq_abs_sigmaFix, Polarity.sigmaFix_of_ne hp.ne', abs_of_pos hp]

theorem errFix_mul_abs_pos (p : ℝ) {μ : ℝ} (hμ : μ ≠ 0) : 0 < errFix p * |μ| :=
  mul_pos (errFix_pos p) (abs_pos.mpr hμ)

theorem arPdf_eq (r μx μy px py : ℝ) :
    arPdf r μx μy px py =
      if μx = 0 ∨ μy = 0 then 0
      else ratioPdf r |μx| |μy| (errFix px * |μx|) (errFix py * |μy|)
          + ratioPdf (-r) |μx| |μy| (errFix px * |μx|) (errFix py * |μy|) := by
  unfold arPdf
  simp only [flt_abs, flt_eqb, flt_c, Nat.cast_zero, Bool.or_eq_true, decide_eq_true_eq,
    abs_eq_zero]

/-! ### Hinkley's ratio density: flipping the sign of either mean is flipping the sign of `z` -/

theorem coefA_neg (z σx σy : ℝ) : coefA (-z) σx σy = coefA z σx σy := by
  rw [coefA_eq, coefA_eq, neg_mul_neg]

theorem ratioPdf_neg_left (z μx μy σx σy : ℝ) : ratioPdf z (-μx) μy σx σy = ratioPdf (-z) μx μy σx σy := by
  rw [ratioPdf_eq, ratioPdf_eq, coefA_neg, coefC_eq, coefC_eq, neg_mul_neg, coefB_eq, coefB_eq, neg_mul_comm]

theorem ratioPdf_neg_right (z μx μy σx σy : ℝ) : ratioPdf z μx (-μy) σx σy = ratioPdf (-z) μx μy σx σy := by
  have hB : coefB z μx (-μy) σx σy = -coefB (-z) μx μy σx σy := by
    rw [coefB_eq, coefB_eq]; ring
  have hC : coefC μx (-μy) σx σy = coefC μx μy σx σy := by
    rw [coefC_eq, coefC_eq, neg_mul_neg]
  -- the term with the two `Φ` is even in the coefficient `b`
  rw [ratioPdf_eq, ratioPdf_eq, coefA_neg, hC, hB, neg_mul_neg, neg_neg]
  ring

theorem ratioPdf_pair_abs (z μx μy σx σy : ℝ) :
    ratioPdf z |μx| |μy| σx σy + ratioPdf (-z) |μx| |μy| σx σy =
      ratioPdf z μx μy σx σy + ratioPdf (-z) μx μy σx σy := by
  rcases abs_choice μx with hx | hx <;> rcases abs_choice μy with hy | hy <;> rw [hx, hy]
  · rw [ratioPdf_neg_right, ratioPdf_neg_right, neg_neg, add_comm]
  · rw [ratioPdf_neg_left, ratioPdf_neg_left, neg_neg, add_comm]
  · rw [ratioPdf_neg_left, ratioPdf_neg_left, ratioPdf_neg_right, ratioPdf_neg_right, neg_neg]

end MTfitVerif.RatioPdf
