import MTfitVerif.Real.ProposalLemmas
/-
  The law of the proposals (C06), stream half: redraw loops and single draws consume ONE stream of
  i.i.d. draws of any law `ν`, each stage handing the rest of the stream to the next.  A stage put in
  front of a predicate `G` on streams is again such a predicate (`loopG`, `drawG`, `typeG`); splitting
  off the first draw (`restSet_succ`, `pi_succ`, `prod_split`) gives its probability on `n` draws from
  that of `G` (`conv`, `shiftSeq`); `StageLaw` carries this law and its limit along a chain of stages,
  `FactoredStage` its product form.  The Gaussian case is in `ProposalLawLemmas`.
-/
namespace MTfitVerif.Proposal
open Acceptance MeasureTheory Set Filter Topology
open scoped ENNReal

/-- first success (probability `p`, failure `q`) at draw `k`, then `a` of the remaining `n-1-k` draws -/
noncomputable def conv (q p : ℝ≥0∞) (a : ℕ → ℝ≥0∞) (n : ℕ) : ℝ≥0∞ :=
  ∑ k ∈ Finset.range n, q ^ k * p * a (n - 1 - k)

@[simp] theorem conv_zero (q p : ℝ≥0∞) (a : ℕ → ℝ≥0∞) : conv q p a 0 = 0 :=
  Finset.sum_range_zero _

theorem conv_succ (q p : ℝ≥0∞) (a : ℕ → ℝ≥0∞) (n : ℕ) :
    conv q p a (n + 1) = p * a n + q * conv q p a n := by
  unfold conv
  rw [Finset.sum_range_succ', Finset.mul_sum, add_comm, pow_zero, one_mul, Nat.add_sub_cancel,
    Nat.sub_zero]
  refine congrArg _ (Finset.sum_congr rfl fun k _ => ?_)
  rw [Nat.sub_add_eq, Nat.sub_right_comm, pow_succ', mul_assoc q, mul_assoc q]

theorem conv_const_one (q p : ℝ≥0∞) (n : ℕ) :
    conv q p (fun _ => 1) n = (∑ k ∈ Finset.range n, q ^ k) * p := by
  unfold conv
  rw [Finset.sum_mul]
  exact Finset.sum_congr rfl (fun k _ => by ring)

theorem conv_fac (q P r t : ℝ≥0∞) {a b : ℕ → ℝ≥0∞} (h : ∀ k, a k = b k * t) (n : ℕ) :
    conv q (P * r) a n = conv q P b n * (r * t) := by
  unfold conv
  rw [Finset.sum_mul]
  refine Finset.sum_congr rfl (fun k _ => ?_)
  rw [h]
  ring

theorem conv_mono (q p : ℝ≥0∞) {a : ℕ → ℝ≥0∞} (ha : Monotone a) : Monotone (conv q p a) := by
  refine monotone_nat_of_le_succ fun n => ?_
  induction n with
  | zero => rw [conv_zero]; exact zero_le
  | succ n ih =>
    rw [conv_succ, conv_succ q p a (n + 1)]
    gcongr
    exact ha n.le_succ

theorem conv_le (q p : ℝ≥0∞) (a : ℕ → ℝ≥0∞) (n : ℕ) :
    conv q p a n ≤ (∑ k ∈ Finset.range n, q ^ k) * (p * ⨆ j, a j) := by
  induction n with
  | zero => rw [conv_zero]; exact zero_le
  | succ n ih =>
    rw [conv_succ, geom_sum_succ, add_mul, one_mul, add_comm, mul_assoc]
    gcongr
    exact le_iSup a n

theorem le_conv (q p : ℝ≥0∞) {a : ℕ → ℝ≥0∞} (ha : Monotone a) (N M : ℕ) :
    (∑ k ∈ Finset.range N, q ^ k) * (p * a M) ≤ conv q p a (N + M) := by
  induction N with
  | zero => rw [Finset.sum_range_zero, zero_mul]; exact zero_le
  | succ N ih =>
    rw [geom_sum_succ, add_mul, one_mul, add_comm, mul_assoc, Nat.succ_add, conv_succ]
    gcongr
    exact ha (Nat.le_add_left M N)

theorem conv_iSup (q p : ℝ≥0∞) {a : ℕ → ℝ≥0∞} (ha : Monotone a) :
    ⨆ n, conv q p a n = (∑' k, q ^ k) * (p * ⨆ j, a j) := by
  refine le_antisymm (iSup_le fun n => (conv_le q p a n).trans ?_) ?_
  · gcongr
    exact ENNReal.sum_le_tsum _
  · rw [ENNReal.tsum_eq_iSup_nat, ENNReal.mul_iSup, ENNReal.iSup_mul]
    refine iSup_le fun i => ?_
    rw [ENNReal.mul_iSup]
    exact iSup_le fun j => (le_conv q p ha i j).trans (le_iSup (conv q p a) (i + j))

theorem conv_tendsto (q p : ℝ≥0∞) {a : ℕ → ℝ≥0∞} (ha : Monotone a) {L : ℝ≥0∞}
    (hL : Tendsto a atTop (𝓝 L)) :
    Tendsto (conv q p a) atTop (𝓝 ((∑' k, q ^ k) * (p * L))) := by
  have h1 := tendsto_atTop_iSup (conv_mono q p ha)
  have h2 : L = ⨆ j, a j := tendsto_nhds_unique hL (tendsto_atTop_iSup ha)
  rw [conv_iSup q p ha, ← h2] at h1
  exact h1

/-- one draw is consumed, then `a` on the remaining `n-1` -/
noncomputable def shiftSeq (c : ℝ≥0∞) (a : ℕ → ℝ≥0∞) : ℕ → ℝ≥0∞
  | 0 => 0
  | n + 1 => c * a n

theorem shiftSeq_mono (c : ℝ≥0∞) {a : ℕ → ℝ≥0∞} (ha : Monotone a) : Monotone (shiftSeq c a) := by
  refine monotone_nat_of_le_succ (fun n => ?_)
  cases n with
  | zero => exact zero_le
  | succ n => simp only [shiftSeq]; gcongr; exact ha (Nat.le_succ n)

theorem shiftSeq_tendsto {c : ℝ≥0∞} (hc : c ≠ ⊤) {a : ℕ → ℝ≥0∞} {L : ℝ≥0∞}
    (hL : Tendsto a atTop (𝓝 L)) : Tendsto (shiftSeq c a) atTop (𝓝 (c * L)) := by
  rw [← tendsto_add_atTop_iff_nat 1]
  exact ENNReal.Tendsto.const_mul hL (Or.inr hc)

theorem shiftSeq_fac (c t : ℝ≥0∞) {a b : ℕ → ℝ≥0∞} (h : ∀ k, a k = b k * t) (n : ℕ) :
    shiftSeq c a n = shiftSeq 1 b n * (c * t) := by
  cases n with
  | zero => exact (zero_mul _).symm
  | succ n => simp only [shiftSeq, h, one_mul]; ring

/-! ### predicates on streams and their events -/

/-- the event on `n` draws that the stream `List.ofFn ω` satisfies `G` -/
def restSet (G : List ℝ → Prop) (n : ℕ) : Set (Fin n → ℝ) := {ω | G (List.ofFn ω)}

/-- a redraw loop returns a value in `B` and the rest of the stream satisfies `G` -/
def loopG (ok : ℝ → Bool) (m s : ℝ) (B : Set ℝ) (G : List ℝ → Prop) : List ℝ → Prop :=
  fun l => ∃ v rest, firstOk ok m s l = some (v, rest) ∧ v ∈ B ∧ G rest

/-- one draw `z` with `f z ∈ B` and the rest of the stream satisfies `G` -/
def drawG (f : ℝ → ℝ) (B : Set ℝ) (G : List ℝ → Prop) : List ℝ → Prop :=
  fun l => ∃ z rest, l = z :: rest ∧ f z ∈ B ∧ G rest

theorem loopG_nil (ok : ℝ → Bool) (m s : ℝ) (B : Set ℝ) (G : List ℝ → Prop) :
    ¬ loopG ok m s B G [] :=
  fun ⟨_, _, h, _⟩ => nomatch h

theorem loopG_cons (ok : ℝ → Bool) (m s : ℝ) (B : Set ℝ) (G : List ℝ → Prop) (z : ℝ) (zs : List ℝ) :
    loopG ok m s B G (z :: zs) ↔
      (ok (m + s * z) = true ∧ m + s * z ∈ B ∧ G zs) ∨
      (¬ ok (m + s * z) = true ∧ loopG ok m s B G zs) := by
  unfold loopG
  by_cases h : ok (m + s * z) = true
  · rw [firstOk_cons_of_ok ok m s z zs h]
    constructor
    · rintro ⟨_, _, he, hv, hG⟩
      cases he
      exact Or.inl ⟨h, hv, hG⟩
    · rintro (⟨_, hv, hG⟩ | ⟨h', _⟩)
      · exact ⟨_, _, rfl, hv, hG⟩
      · exact absurd h h'
  · rw [firstOk_cons_of_not ok m s z zs h]
    exact ⟨fun h' => Or.inr ⟨h, h'⟩, fun h' => h'.elim (fun h'' => absurd h''.1 h) And.right⟩

theorem drawG_nil (f : ℝ → ℝ) (B : Set ℝ) (G : List ℝ → Prop) : ¬ drawG f B G [] :=
  fun ⟨_, _, h, _⟩ => nomatch h

theorem drawG_cons (f : ℝ → ℝ) (B : Set ℝ) (G : List ℝ → Prop) (z : ℝ) (zs : List ℝ) :
    drawG f B G (z :: zs) ↔ f z ∈ B ∧ G zs := by
  simp only [drawG, List.cons.injEq]
  constructor
  · rintro ⟨z, rest, ⟨rfl, rfl⟩, h⟩; exact h
  · exact fun h => ⟨_, _, ⟨rfl, rfl⟩, h⟩

theorem restSet_true (n : ℕ) : restSet (fun _ => True) n = univ := rfl

theorem restSet_zero {G : List ℝ → Prop} (h : ¬ G []) : restSet G 0 = ∅ :=
  eq_empty_of_forall_notMem fun ω hω => h (by rwa [restSet, mem_ofPred_eq, List.ofFn_zero] at hω)

abbrev headTail (n : ℕ) : (Fin (n + 1) → ℝ) ≃ᵐ ℝ × (Fin n → ℝ) :=
  MeasurableEquiv.piFinSuccAbove (fun _ => ℝ) 0

theorem restSet_succ (G : List ℝ → Prop) (n : ℕ) :
    restSet G (n + 1) = headTail n ⁻¹' {p | G (p.1 :: List.ofFn p.2)} := by
  ext ω
  simp only [restSet, mem_ofPred_eq, List.ofFn_succ, mem_preimage]
  rfl

theorem restSet_loopG_succ (ok : ℝ → Bool) (m s : ℝ) (B : Set ℝ) (G : List ℝ → Prop) (n : ℕ) :
    restSet (loopG ok m s B G) (n + 1) = headTail n ⁻¹'
      ((okSet ok m s ∩ (fun z => m + s * z) ⁻¹' B) ×ˢ restSet G n ∪
        (okSet ok m s)ᶜ ×ˢ restSet (loopG ok m s B G) n) := by
  rw [restSet_succ]
  congr 1
  ext p
  simp only [mem_ofPred_eq, loopG_cons, mem_union, mem_prod, mem_inter_iff, mem_compl_iff, mem_preimage,
    and_assoc]
  rfl

theorem restSet_drawG_succ (f : ℝ → ℝ) (B : Set ℝ) (G : List ℝ → Prop) (n : ℕ) :
    restSet (drawG f B G) (n + 1) = headTail n ⁻¹' ((f ⁻¹' B) ×ˢ restSet G n) := by
  rw [restSet_succ]
  congr 1
  ext p
  exact drawG_cons f B G p.1 _

theorem measurableSet_restSet_loopG {ok : ℝ → Bool} {m s : ℝ} (hS : MeasurableSet (okSet ok m s))
    {B : Set ℝ} (hB : MeasurableSet B) {G : List ℝ → Prop}
    (hG : ∀ n, MeasurableSet (restSet G n)) :
    ∀ n, MeasurableSet (restSet (loopG ok m s B G) n)
  | 0 => by rw [restSet_zero (loopG_nil ok m s B G)]; exact MeasurableSet.empty
  | n + 1 => by
    rw [restSet_loopG_succ]
    exact (((hS.inter (hB.preimage (by fun_prop))).prod (hG n)).union
      (hS.compl.prod (measurableSet_restSet_loopG hS hB hG n))).preimage (headTail n).measurable

theorem measurableSet_restSet_drawG {f : ℝ → ℝ} (hf : Measurable f) {B : Set ℝ}
    (hB : MeasurableSet B) {G : List ℝ → Prop} (hG : ∀ n, MeasurableSet (restSet G n)) :
    ∀ n, MeasurableSet (restSet (drawG f B G) n)
  | 0 => by rw [restSet_zero (drawG_nil f B G)]; exact MeasurableSet.empty
  | n + 1 => by
    rw [restSet_drawG_succ]
    exact ((hB.preimage hf).prod (hG n)).preimage (headTail n).measurable

/-! ### probabilities for `n` independent draws -/

theorem pi_succ (ν : Measure ℝ) [SigmaFinite ν] (n : ℕ) (T : Set (ℝ × (Fin n → ℝ))) :
    Measure.pi (fun _ : Fin (n + 1) => ν) (headTail n ⁻¹' T) =
      (ν.prod (Measure.pi fun _ : Fin n => ν)) T :=
  (measurePreserving_piFinSuccAbove (fun _ : Fin (n + 1) => ν) 0).measure_preimage_equiv T

theorem prod_split {α β : Type*} [MeasurableSpace α] [MeasurableSpace β] (μ : Measure α)
    (ρ : Measure β) [SFinite ρ] {S U : Set α} (hS : MeasurableSet S) (hU : U ⊆ S) (V W : Set β) :
    (μ.prod ρ) (U ×ˢ V ∪ Sᶜ ×ˢ W) = μ U * ρ V + μ Sᶜ * ρ W := by
  have h := measure_inter_add_sdiff (μ := μ.prod ρ) (U ×ˢ V ∪ Sᶜ ×ˢ W)
    (hS.prod (MeasurableSet.univ : MeasurableSet (univ : Set β)))
  have h1 : (U ×ˢ V ∪ Sᶜ ×ˢ W) ∩ S ×ˢ (univ : Set β) = U ×ˢ V := by
    rw [union_inter_distrib_right, prod_inter_prod, prod_inter_prod, compl_inter_self, empty_prod,
      union_empty, inter_univ, inter_eq_left.mpr hU]
  have h2 : (U ×ˢ V ∪ Sᶜ ×ˢ W) \ S ×ˢ (univ : Set β) = Sᶜ ×ˢ W := by
    rw [union_sdiff_distrib, sdiff_eq_empty.mpr (prod_mono hU (subset_univ V)), empty_union,
      sdiff_eq_left]
    exact Disjoint.set_prod_left disjoint_compl_left W univ
  rw [h1, h2, Measure.prod_prod, Measure.prod_prod] at h
  exact h.symm

variable (ν : Measure ℝ) [IsProbabilityMeasure ν]

/-- the first in-range draw is at position `k`; the remaining `n-1-k` draws are again i.i.d. and
    independent of what came before -/
theorem restSet_loopG_measure (ok : ℝ → Bool) (m s : ℝ) (hS : MeasurableSet (okSet ok m s))
    (B : Set ℝ) (G : List ℝ → Prop) (n : ℕ) :
    Measure.pi (fun _ : Fin n => ν) (restSet (loopG ok m s B G) n) =
      conv (ν (okSet ok m s)ᶜ) (ν (okSet ok m s ∩ (fun z => m + s * z) ⁻¹' B))
        (fun k => Measure.pi (fun _ : Fin k => ν) (restSet G k)) n := by
  induction n with
  | zero => rw [restSet_zero (loopG_nil ok m s B G), measure_empty, conv_zero]
  | succ n ih =>
    rw [restSet_loopG_succ, pi_succ, prod_split ν _ hS inter_subset_left, ih, conv_succ]

theorem restSet_drawG_measure (f : ℝ → ℝ) (B : Set ℝ) (G : List ℝ → Prop) (n : ℕ) :
    Measure.pi (fun _ : Fin n => ν) (restSet (drawG f B G) n) =
      shiftSeq (ν (f ⁻¹' B)) (fun k => Measure.pi (fun _ : Fin k => ν) (restSet G k)) n := by
  cases n with
  | zero => rw [restSet_zero (drawG_nil f B G), measure_empty]; rfl
  | succ n => rw [restSet_drawG_succ, pi_succ, Measure.prod_prod]; rfl

theorem conv_compl_tendsto {S : Set ℝ} (hS : MeasurableSet S) (p : ℝ≥0∞) {a : ℕ → ℝ≥0∞}
    (ha : Monotone a) {L : ℝ≥0∞} (hL : Tendsto a atTop (𝓝 L)) :
    Tendsto (conv (ν Sᶜ) p a) atTop (𝓝 (p / ν S * L)) := by
  have hg : ∑' k, ν Sᶜ ^ k = (ν S)⁻¹ := by
    rw [ENNReal.tsum_geometric, prob_compl_eq_one_sub hS,
      ENNReal.sub_sub_cancel ENNReal.one_ne_top prob_le_one]
  have h := conv_tendsto (ν Sᶜ) p ha hL
  rwa [hg, ← mul_assoc, mul_comm _ p, ← div_eq_mul_inv] at h

/-! ### composing stages

  Two notions, each closed under putting a loop or a draw in front: `StageLaw` for any events and any
  limit (the general-`ν` theorems of C06), `FactoredStage` for measurable targets and loops that can
  succeed, where the law splits into the law of the values and the probability of completion (the
  step laws of C07). -/

/-- `a n` is the probability that a stream of `n` i.i.d. draws satisfies `G`; it is monotone in `n`
    and tends to `L` -/
structure StageLaw (ν : Measure ℝ) (G : List ℝ → Prop) (a : ℕ → ℝ≥0∞) (L : ℝ≥0∞) : Prop where
  law : ∀ n, Measure.pi (fun _ : Fin n => ν) (restSet G n) = a n
  mono : Monotone a
  lim : Tendsto a atTop (𝓝 L)

variable {ν} {G : List ℝ → Prop} {a : ℕ → ℝ≥0∞} {L : ℝ≥0∞}

omit [IsProbabilityMeasure ν] in
theorem StageLaw.measure_mono (h : StageLaw ν G a L) :
    Monotone fun n => Measure.pi (fun _ : Fin n => ν) (restSet G n) := by
  rw [funext h.law]
  exact h.mono

omit [IsProbabilityMeasure ν] in
theorem StageLaw.measure_tendsto (h : StageLaw ν G a L) :
    Tendsto (fun n => Measure.pi (fun _ : Fin n => ν) (restSet G n)) atTop (𝓝 L) := by
  rw [funext h.law]
  exact h.lim

variable (ν) in
theorem StageLaw.nil : StageLaw ν (fun _ => True) (fun _ => 1) 1 :=
  ⟨fun n => by rw [restSet_true, measure_univ], monotone_const, tendsto_const_nhds⟩

theorem StageLaw.loop (h : StageLaw ν G a L) {ok : ℝ → Bool} {m s : ℝ}
    (hS : MeasurableSet (okSet ok m s)) (B : Set ℝ) :
    StageLaw ν (loopG ok m s B G)
      (conv (ν (okSet ok m s)ᶜ) (ν (okSet ok m s ∩ (fun z => m + s * z) ⁻¹' B)) a)
      (ν (okSet ok m s ∩ (fun z => m + s * z) ⁻¹' B) / ν (okSet ok m s) * L) :=
  ⟨fun n => by rw [restSet_loopG_measure ν ok m s hS B G n, funext h.law], conv_mono _ _ h.mono,
    conv_compl_tendsto ν hS _ h.mono h.lim⟩

theorem StageLaw.draw (h : StageLaw ν G a L) (f : ℝ → ℝ) (B : Set ℝ) :
    StageLaw ν (drawG f B G) (shiftSeq (ν (f ⁻¹' B)) a) (ν (f ⁻¹' B) * L) :=
  ⟨fun n => by rw [restSet_drawG_measure ν f B G n, funext h.law], shiftSeq_mono _ h.mono,
    shiftSeq_tendsto (measure_ne_top _ _) h.lim⟩

variable (ν) in
theorem stageLaw_firstOk (ok : ℝ → Bool) (m s : ℝ) (hS : MeasurableSet (okSet ok m s)) (A : Set ℝ) :
    StageLaw ν (fun l => ∃ v rest, firstOk ok m s l = some (v, rest) ∧ v ∈ A)
      (fun n => (∑ k ∈ Finset.range n, ν (okSet ok m s)ᶜ ^ k) *
        ν (okSet ok m s ∩ (fun z => m + s * z) ⁻¹' A))
      (ν (okSet ok m s ∩ (fun z => m + s * z) ⁻¹' A) / ν (okSet ok m s)) := by
  have h := (StageLaw.nil ν).loop hS A
  unfold loopG at h
  simp only [and_true, mul_one, funext (conv_const_one _ _)] at h
  exact h

/-- the probability that a redraw loop and what follows it are completed within `n` draws (of law `ν`),
    when what follows is completed within `k` draws with probability `c k` -/
noncomputable def loopSeq (ν : Measure ℝ) (ok : ℝ → Bool) (m s : ℝ) (c : ℕ → ℝ≥0∞) : ℕ → ℝ≥0∞ :=
  conv (ν (okSet ok m s)ᶜ) (ν (okSet ok m s)) c

/-- a stage with measurable targets, in product form: the event is measurable and its probability on
    `n` draws is `c n · t` — `t` the limit law of the values, `c n` the probability that the stage is
    completed within `n` draws, which increases to `1` -/
structure FactoredStage (ν : Measure ℝ) (G : List ℝ → Prop) (t : ℝ≥0∞) (c : ℕ → ℝ≥0∞) : Prop where
  meas : ∀ n, MeasurableSet (restSet G n)
  law : ∀ n, Measure.pi (fun _ : Fin n => ν) (restSet G n) = c n * t
  mono : Monotone c
  lim : Tendsto c atTop (𝓝 1)

variable {t : ℝ≥0∞} {c : ℕ → ℝ≥0∞}

theorem FactoredStage.nil : FactoredStage ν (fun _ => True) 1 (fun _ => 1) :=
  ⟨fun n => by rw [restSet_true]; exact .univ, fun n => by rw [restSet_true, measure_univ, mul_one],
    monotone_const, tendsto_const_nhds⟩

theorem FactoredStage.loop (h : FactoredStage ν G t c) {ok : ℝ → Bool} {m s : ℝ}
    (hS : MeasurableSet (okSet ok m s)) (h0 : ν (okSet ok m s) ≠ 0) {B : Set ℝ} (hB : MeasurableSet B)
    {r : ℝ≥0∞} (hr : ν (okSet ok m s ∩ (fun z => m + s * z) ⁻¹' B) = ν (okSet ok m s) * r) :
    FactoredStage ν (loopG ok m s B G) (r * t) (loopSeq ν ok m s c) :=
  ⟨measurableSet_restSet_loopG hS hB h.meas,
    fun n => by rw [restSet_loopG_measure ν ok m s hS, hr]; exact conv_fac _ _ _ _ h.law n,
    conv_mono _ _ h.mono, by
      have := conv_compl_tendsto ν hS (ν (okSet ok m s)) h.mono h.lim
      rwa [ENNReal.div_self h0 (measure_ne_top ν _), one_mul] at this⟩

theorem FactoredStage.draw (h : FactoredStage ν G t c) {f : ℝ → ℝ} (hf : Measurable f) {B : Set ℝ}
    (hB : MeasurableSet B) : FactoredStage ν (drawG f B G) (ν.map f B * t) (shiftSeq 1 c) :=
  ⟨measurableSet_restSet_drawG hf hB h.meas,
    fun n => by
      rw [restSet_drawG_measure ν, Measure.map_apply hf hB]; exact shiftSeq_fac _ _ h.law n,
    shiftSeq_mono 1 h.mono, by
      have := shiftSeq_tendsto ENNReal.one_ne_top h.lim
      rwa [one_mul] at this⟩

omit [IsProbabilityMeasure ν] in
theorem FactoredStage.guard (h : FactoredStage ν G t c) (p : Prop) [Decidable p] :
    FactoredStage ν (fun l => p ∧ G l) ((if p then 1 else 0) * t) c := by
  by_cases hp : p
  · simpa only [hp, true_and, if_true, one_mul] using h
  · simp only [hp, false_and, if_false, zero_mul]
    exact ⟨fun n => MeasurableSet.empty, fun n => (measure_empty).trans (mul_zero _).symm, h.mono, h.lim⟩

/-! ### `shiftSample` and `jumpDraw` as compositions of stages -/

/-- the source-type stage of `shiftSample`: a redraw loop for the full tensor, the constant `0` (no draw
    consumed) for a double-couple chain -/
def typeG (dc : Bool) (b m s : ℝ) (B : Set ℝ) (G : List ℝ → Prop) : List ℝ → Prop :=
  fun l => ∃ v rest, typeDraw dc b m s l = some (v, rest) ∧ v ∈ B ∧ G rest

theorem typeG_false (b m s : ℝ) (B : Set ℝ) (G : List ℝ → Prop) :
    typeG false b m s B G = loopG (absLe b) m s B G := rfl

theorem typeG_true (b m s : ℝ) (B : Set ℝ) (G : List ℝ → Prop) :
    typeG true b m s B G = fun l => (0 : ℝ) ∈ B ∧ G l := by
  funext l
  simp only [typeG, typeDraw, if_true, Option.some.injEq, Prod.mk.injEq, eq_iff_iff]
  exact ⟨fun ⟨v, rest, ⟨hv, hr⟩, h1, h2⟩ => ⟨hv ▸ h1, hr ▸ h2⟩, fun ⟨h1, h2⟩ => ⟨0, l, ⟨rfl, rfl⟩, h1, h2⟩⟩

open Real in
theorem shiftSample_iff (dc : Bool) (w : Widths ℝ) (ξ : Tape ℝ) (B1 B2 B3 B4 B5 : Set ℝ) (zs : List ℝ) :
    (∃ x rest, shiftSample dc w ξ zs = some (x, rest) ∧
        x.gamma ∈ B1 ∧ x.delta ∈ B2 ∧ x.kappa ∈ B3 ∧ x.h ∈ B4 ∧ x.sigma ∈ B5) ↔
      typeG dc (π / 6) ξ.gamma w.gamma B1 (typeG dc (π / 2) ξ.delta w.delta B2
        (drawG (fun z => Convert.mod2pi (ξ.kappa + w.kappa * z)) B3
          (loopG inUnit ξ.h w.h B4 (loopG (absLe (π / 2)) ξ.sigma w.sigma B5 (fun _ => True))))) zs := by
  simp only [shiftSample_eq_some_iff, typeG, loopG, drawG]
  constructor
  · rintro ⟨x, rest, ⟨g, z1, d, z, z3, hh, z4, s, h1, h2, h4, h5, rfl⟩, hg, hd, hk, hv, hs⟩
    exact ⟨g, z1, h1, hg, d, _, h2, hd, z, z3, rfl, hk, hh, z4, h4, hv, s, rest, h5, hs, trivial⟩
  · rintro ⟨g, z1, h1, hg, d, z2, h2, hd, z, z3, rfl, hk, hh, z4, h4, hv, s, rest, h5, hs, -⟩
    exact ⟨_, rest, ⟨g, z1, d, z, z3, hh, z4, s, h1, h2, h4, h5, rfl⟩, hg, hd, hk, hv, hs⟩

open Real in
theorem jumpDraw_iff (w : Widths ℝ) (Bg Bd : Set ℝ) (zs : List ℝ) :
    (∃ g d rest, jumpDraw w zs = some (g, d, rest) ∧ g ∈ Bg ∧ d ∈ Bd) ↔
      loopG (absLe (π / 6)) 0 w.gammaDc Bg
        (loopG (absLe (π / 2)) 0 w.deltaDc Bd (fun _ => True)) zs := by
  simp only [jumpDraw_eq, Option.bind_eq_some_iff, Prod.exists, Option.some.injEq, Prod.mk.injEq, loopG]
  constructor
  · rintro ⟨g, d, rest, ⟨g', z1, h1, d', z2, h2, rfl, rfl, rfl⟩, hg, hd⟩
    exact ⟨g', z1, h1, hg, d', z2, h2, hd, trivial⟩
  · rintro ⟨g, z1, h1, hg, d, z2, h2, hd, -⟩
    exact ⟨g, d, z2, ⟨g, z1, h1, d, z2, h2, rfl, rfl, rfl⟩, hg, hd⟩

end MTfitVerif.Proposal
