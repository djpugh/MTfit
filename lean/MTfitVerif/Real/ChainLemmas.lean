import MTfitVerif.Model.Chain
/-
  Lemmas for C07 (Markov-chain bookkeeping), Mathlib-free.  Every operation is given in closed form in
  its two regimes (learning period / chain); `step` is a `record`, window updates and possibly one more
  `record` (`step_induction`).  `Inv` holds at every intermediate state, `BInv` between iterations.
-/
namespace MTfitVerif.Chain

/-! ### `addCore`, `addOld`, `addNew` in the two regimes -/

theorem addCore_learning {s : State} (x : Entry) (h : learning s = true) :
    addCore s x = { s with cur := x } :=
  if_pos h

theorem addCore_chain {s : State} (x : Entry) (h : learning s = false) :
    addCore s x = { s with cur := x, chain := s.chain ++ [x], tried := s.tried + 1,
                           pDc := s.pDc + (if x.isDc then 1 else 0) } :=
  if_neg (ne_true_of_eq_false h)

theorem learning_addCore (s : State) (x : Entry) : learning (addCore s x) = learning s := by
  cases h : learning s
  · rw [addCore_chain x h]; exact h
  · rw [addCore_learning x h]; exact h

theorem addOld_learning {s : State} (h : learning s = true) :
    addOld s = { s with learnWin := s.learnWin ++ [false] } := by
  rw [addOld, learning_addCore, h, if_pos rfl, addCore_learning _ h]

theorem addOld_chain {s : State} (h : learning s = false) :
    addOld s = { s with chain := s.chain ++ [s.cur], tried := s.tried + 1,
                        pDc := s.pDc + (if s.cur.isDc then 1 else 0) } := by
  rw [addOld, learning_addCore, h, if_neg Bool.false_ne_true, addCore_chain _ h]

theorem addNew_learning {s : State} (x : Entry) (h : learning s = true) :
    addNew s x = { s with cur := x, learnWin := s.learnWin ++ [true],
                          nLearnAcc := s.nLearnAcc + 1 } := by
  rw [addNew, learning_addCore, h, if_pos rfl, addCore_learning _ h]

theorem addNew_chain {s : State} (x : Entry) (h : learning s = false) :
    addNew s x = { s with cur := x, chain := s.chain ++ [x], tried := s.tried + 1,
                          pDc := s.pDc + (if x.isDc then 1 else 0),
                          accepted := s.accepted + 1 } := by
  rw [addNew, learning_addCore, h, if_neg Bool.false_ne_true, addCore_chain _ h]

/-! ### what an event records -/

/-- number of proposals an event tries -/
def tries : Event → Nat
  | .accept u _ => u + 1
  | .reject n => max n 1

theorem tries_pos (ev : Event) : 1 ≤ tries ev := by
  cases ev with
  | accept u e => exact Nat.le_add_left 1 u
  | reject n => exact Nat.le_max_right n 1

/-- the entries an event appends to the chain when the current entry is `cur` -/
def recorded (cur : Entry) : Event → List Entry
  | .accept u e => List.replicate u cur ++ [e]
  | .reject n => List.replicate (max n 1) cur

/-- the entry an event leaves as current -/
def Event.last (cur : Entry) : Event → Entry
  | .accept _ e => e
  | .reject _ => cur

def dcCount (l : List Entry) : Nat := (l.filter (·.isDc)).length

theorem dcCount_append (l₁ l₂ : List Entry) : dcCount (l₁ ++ l₂) = dcCount l₁ + dcCount l₂ := by
  simp only [dcCount, List.filter_append, List.length_append]

theorem dcCount_singleton (x : Entry) : dcCount [x] = if x.isDc then 1 else 0 := by
  cases h : x.isDc <;> simp [dcCount, h]

theorem recorded_length (cur : Entry) (ev : Event) : (recorded cur ev).length = tries ev := by
  cases ev <;> simp [recorded, tries]

theorem recorded_mem {cur e : Entry} {ev : Event} (h : e ∈ recorded cur ev) :
    e = cur ∨ ∃ u, ev = .accept u e := by
  cases ev with
  | accept u x =>
    rcases List.mem_append.mp h with h | h
    · exact Or.inl (List.eq_of_mem_replicate h)
    · exact Or.inr ⟨u, by rw [List.mem_singleton.mp h]⟩
  | reject n => exact Or.inl (List.eq_of_mem_replicate h)

/-! ### `iter addOld` and `record` in closed form, in the two regimes -/

theorem iter_addOld_learning (n : Nat) {s : State} (h : learning s = true) :
    iter addOld n s = { s with learnWin := s.learnWin ++ List.replicate n false } := by
  induction n generalizing s with
  | zero => simp [iter]
  | succ n ih =>
    rw [iter, addOld_learning h, ih (by exact h)]
    simp [List.replicate_succ]

theorem iter_addOld_chain (n : Nat) {s : State} (h : learning s = false) :
    iter addOld n s = { s with chain := s.chain ++ List.replicate n s.cur, tried := s.tried + n,
                               pDc := s.pDc + dcCount (List.replicate n s.cur) } := by
  induction n generalizing s with
  | zero => simp [iter, dcCount]
  | succ n ih =>
    rw [iter, addOld_chain h, ih (by exact h)]
    simp only [List.replicate_succ, List.append_assoc, List.singleton_append, State.mk.injEq, true_and,
      and_true]
    refine ⟨by omega, ?_⟩
    rw [← List.singleton_append, dcCount_append, dcCount_singleton, Nat.add_assoc]

theorem record_learning {s : State} (ev : Event) (h : learning s = true) :
    ∃ w k, record s ev = { s with cur := ev.last s.cur, learnWin := w, nLearnAcc := k } := by
  cases ev with
  | accept u e =>
    show ∃ w k, addNew (iter addOld u s) e = _
    rw [iter_addOld_learning u h, addNew_learning e (by exact h)]
    exact ⟨_, _, rfl⟩
  | reject n =>
    show ∃ w k, iter addOld (max n 1) s = _
    rw [iter_addOld_learning _ h]
    exact ⟨_, _, rfl⟩

theorem record_chain {s : State} (ev : Event) (h : learning s = false) :
    record s ev = { s with cur := ev.last s.cur, chain := s.chain ++ recorded s.cur ev,
                           tried := s.tried + tries ev,
                           accepted := s.accepted + (match ev with | .accept _ _ => 1 | .reject _ => 0),
                           pDc := s.pDc + dcCount (recorded s.cur ev) } := by
  cases ev with
  | accept u e =>
    show addNew (iter addOld u s) e = _
    rw [iter_addOld_chain u h, addNew_chain e (by exact h)]
    simp only [recorded, tries, Event.last, State.mk.injEq, true_and, and_true, List.append_assoc,
      dcCount_append, dcCount_singleton, Nat.add_assoc]
    omega
  | reject n =>
    show iter addOld (max n 1) s = _
    rw [iter_addOld_chain _ h]
    simp only [recorded, tries, Event.last, State.mk.injEq, true_and, and_true]
    omega

theorem addNew_eq_record (s : State) (x : Entry) : addNew s x = record s (.accept 0 x) := rfl

theorem record_not_learning {s : State} (ev : Event) (h : learning s = false) :
    learning (record s ev) = false := by
  rw [record_chain ev h]; exact h

theorem record_tried {s : State} (ev : Event) (h : learning s = false) :
    (record s ev).tried = s.tried + tries ev := by
  rw [record_chain ev h]

theorem record_chainLength (s : State) (ev : Event) :
    (record s ev).chainLength = s.chainLength := by
  cases h : learning s
  · rw [record_chain ev h]
  · obtain ⟨w, k, e⟩ := record_learning ev h
    rw [e]

/-! ### the counting invariant (holds for every intermediate state too) -/

structure Inv (s : State) : Prop where
  len : (s.chain.length : Int) = s.tried + 1
  pdc : s.pDc = (s.chain.filter (·.isDc)).length
  learn : learning s = true → s.tried = -1 ∧ s.accepted = -1

theorem inv_init (L W C : Nat) (x0 : Entry) : Inv (init L W C x0) :=
  ⟨rfl, rfl, fun _ => ⟨rfl, rfl⟩⟩

theorem Inv.record {s : State} (hs : Inv s) (ev : Event) : Inv (record s ev) := by
  cases h : learning s
  · rw [record_chain ev h]
    refine ⟨?_, ?_, fun h' => absurd (h'.symm.trans h) (by simp)⟩
    · have := hs.len
      simp only [List.length_append, recorded_length]; omega
    · show _ = dcCount _
      rw [dcCount_append, hs.pdc]; rfl
  · obtain ⟨w, k, e⟩ := record_learning ev h
    rw [e]
    exact ⟨hs.len, hs.pdc, fun _ => hs.learn h⟩

/-- the learning-period width update of `step` -/
def adapt1 (s : State) : State :=
  if learning s && s.learnWin.length ≥ s.window then
    { s with adaptCalls := s.adaptCalls + 1, learnWin := [] } else s

/-- the width update at the first chain sample -/
def adapt2 (s : State) : State :=
  let w := s.learnWin.drop (s.learnWin.length - s.window)
  if 4 * w.length > 3 * s.window then { s with learnWin := w, adaptCalls := s.adaptCalls + 1 } else s

theorem step_eq (s : State) (ev : Event) :
    step s ev =
      if (!learning (adapt1 (record s ev)) && decide (s.tried < 0) &&
          decide (0 ≤ (adapt1 (record s ev)).tried)) = true then
        addNew (adapt2 (adapt1 (record s ev))) (adapt2 (adapt1 (record s ev))).cur
      else adapt1 (record s ev) := rfl

theorem adapt1_eq (s : State) : ∃ w a, adapt1 s = { s with learnWin := w, adaptCalls := a } := by
  unfold adapt1; split
  · exact ⟨_, _, rfl⟩
  · exact ⟨_, _, rfl⟩

theorem adapt2_eq (s : State) : ∃ w a, adapt2 s = { s with learnWin := w, adaptCalls := a } := by
  unfold adapt2; simp only; split
  · exact ⟨_, _, rfl⟩
  · exact ⟨_, _, rfl⟩

theorem adapt1_not_learning {s : State} (h : learning s = false) : adapt1 s = s := by
  simp [adapt1, h]

/-- `step` is a `record`, two updates of the learning window and possibly the extra hold, which is a
    `record` again: whatever these keep, `step` keeps -/
theorem step_induction {P : State → Prop} {s : State} {ev : Event}
    (hrec : ∀ s' ev', (ev' = ev ∨ ev' = .accept 0 s'.cur) → P s' → P (record s' ev'))
    (hwin : ∀ s' w a, P s' → P { s' with learnWin := w, adaptCalls := a }) (hs : P s) : P (step s ev) := by
  have h1 : P (adapt1 (record s ev)) := by
    obtain ⟨w, a, h⟩ := adapt1_eq (record s ev); rw [h]; exact hwin _ w a (hrec s ev (Or.inl rfl) hs)
  rw [step_eq]; split
  · obtain ⟨w, a, h⟩ := adapt2_eq (adapt1 (record s ev))
    have h2 : P (adapt2 (adapt1 (record s ev))) := by rw [h]; exact hwin _ w a h1
    -- (stated through `record` first: unifying `addNew _ _` with `record ?s ?ev` is very slow)
    rw [addNew_eq_record]
    exact hrec (adapt2 (adapt1 (record s ev))) _ (Or.inr rfl) h2
  · exact h1

theorem Inv.step {s : State} (hs : Inv s) (ev : Event) : Inv (step s ev) :=
  step_induction (fun _ ev' _ h => h.record ev') (fun _ _ _ h => ⟨h.len, h.pdc, h.learn⟩) hs

theorem step_not_learning {s : State} (ev : Event) (hl : learning s = false) :
    learning (step s ev) = false :=
  step_induction (P := fun s' => learning s' = false) (fun _ ev' _ h => record_not_learning ev' h)
    (fun _ _ _ h => h) hl

theorem step_chainLength (s : State) (ev : Event) : (step s ev).chainLength = s.chainLength :=
  step_induction (P := fun s' => s'.chainLength = s.chainLength)
    (fun s' ev' _ h => (record_chainLength s' ev').trans h) (fun _ _ _ h => h) rfl

/-- all entries held (current state and chain) satisfy `P` -/
def EInv (P : Entry → Prop) (s : State) : Prop := P s.cur ∧ ∀ e ∈ s.chain, P e

theorem EInv.record {P} {s : State} (hs : EInv P s) {ev : Event}
    (hev : ∀ u e, ev = .accept u e → P e) : EInv P (record s ev) := by
  have hlast : P (ev.last s.cur) := by
    cases ev with
    | accept u e => exact hev u e rfl
    | reject n => exact hs.1
  cases h : learning s
  · rw [record_chain ev h]
    refine ⟨hlast, fun e he => ?_⟩
    rcases List.mem_append.mp he with he | he
    · exact hs.2 e he
    · rcases recorded_mem he with rfl | ⟨u, rfl⟩
      · exact hs.1
      · exact hev u e rfl
  · obtain ⟨w, k, e⟩ := record_learning ev h
    rw [e]
    exact ⟨hlast, hs.2⟩

theorem EInv.step {P} {s : State} (hs : EInv P s) {ev : Event}
    (hev : ∀ u e, ev = .accept u e → P e) : EInv P (step s ev) :=
  step_induction (P := EInv P) (fun s' ev' hev' h => h.record fun u e he => by
    rcases hev' with rfl | rfl
    · exact hev u e he
    · cases he; exact h.1) (fun _ _ _ h => h) hs

theorem EInv.foldl {P} {s : State} (hs : EInv P s) (evs : List Event)
    (hev : ∀ u e, Event.accept u e ∈ evs → P e) : EInv P (evs.foldl Chain.step s) :=
  List.foldlRecOn evs Chain.step hs fun _ h _ hm => h.step fun u e he => hev u e (he ▸ hm)

/-! ### `step` in the chain regime -/

theorem adapt1_tried (s : State) : (adapt1 s).tried = s.tried := by
  obtain ⟨w, a, h⟩ := adapt1_eq s; rw [h]

theorem step_of_not_first {s : State} {ev : Event}
    (h : ¬ (s.tried < 0 ∧ 0 ≤ (record s ev).tried)) : step s ev = adapt1 (record s ev) := by
  rw [step_eq, adapt1_tried]
  split
  · rename_i h'
    simp only [Bool.and_eq_true, decide_eq_true_eq] at h'
    exact absurd ⟨h'.1.2, h'.2⟩ h
  · rfl

theorem step_of_chain_started {s : State} {ev : Event} (hl : learning s = false) (h : 0 ≤ s.tried) :
    step s ev = record s ev := by
  rw [step_of_not_first (by omega), adapt1_not_learning (record_not_learning ev hl)]

/-- the first chain iteration: the state reached is held one extra time, which is the `record` of an
    acceptance of the current entry -/
theorem step_of_chain_first {s : State} (ev : Event) (hl : learning s = false) (ht : s.tried = -1) :
    ∃ w a, step s ev =
      record { record s ev with learnWin := w, adaptCalls := a } (.accept 0 (record s ev).cur) := by
  have hr := record_not_learning ev hl
  have htr := record_tried ev hl
  have hp := tries_pos ev
  have hc : (!learning (record s ev) && decide (s.tried < 0) && decide (0 ≤ (record s ev).tried)) = true := by
    rw [hr, decide_eq_true (show s.tried < 0 by omega), decide_eq_true (show 0 ≤ (record s ev).tried by omega)]
    rfl
  obtain ⟨w, a, h2⟩ := adapt2_eq (record s ev)
  rw [step_eq, adapt1_not_learning hr, if_pos hc, h2]
  exact ⟨w, a, rfl⟩

/-! ### `tried` after a step -/

theorem step_tried_learning {s : State} (ev : Event) (hl : learning s = true) :
    (step s ev).tried = s.tried := by
  obtain ⟨w, k, e⟩ := record_learning ev hl
  have ht : (record s ev).tried = s.tried := by rw [e]
  rw [step_of_not_first (by omega), adapt1_tried, ht]

theorem step_tried_first {s : State} (ev : Event) (hl : learning s = false) (ht : s.tried = -1) :
    (step s ev).tried = tries ev := by
  obtain ⟨w, a, e⟩ := step_of_chain_first ev hl ht
  have ht' := record_tried ev hl
  rw [e, record_tried _ (s := { record s ev with learnWin := w, adaptCalls := a }) (record_not_learning ev hl)]
  show (record s ev).tried + ((0 + 1 : Nat) : Int) = _
  omega

theorem step_tried_started {s : State} (ev : Event) (hl : learning s = false) (ht : 0 ≤ s.tried) :
    (step s ev).tried = s.tried + tries ev := by
  rw [step_of_chain_started hl ht, record_tried ev hl]

/-! ### the invariant at iteration boundaries -/

structure BInv (s : State) : Prop extends Inv s where
  bnd : s.tried = -1 ∨ 1 ≤ s.tried

theorem binv_init (L W C : Nat) (x0 : Entry) : BInv (init L W C x0) :=
  ⟨inv_init L W C x0, Or.inl rfl⟩

theorem step_tried {s : State} (hs : BInv s) (ev : Event) :
    (step s ev).tried = if learning s then s.tried else max s.tried 0 + tries ev := by
  cases h : learning s
  · rw [if_neg Bool.false_ne_true]
    rcases hs.bnd with h1 | h1
    · rw [step_tried_first ev h h1, h1, Int.max_eq_right (by decide), Int.zero_add]
    · rw [step_tried_started ev h (by omega), Int.max_eq_left (by omega)]
  · exact step_tried_learning ev h

theorem BInv.step {s : State} (hs : BInv s) (ev : Event) : BInv (step s ev) := by
  refine ⟨hs.toInv.step ev, ?_⟩
  have hp := tries_pos ev
  rw [step_tried hs]
  split
  · exact hs.bnd
  · right; omega

theorem BInv.foldl {s : State} (hs : BInv s) (evs : List Event) : BInv (evs.foldl Chain.step s) :=
  List.foldlRecOn evs Chain.step hs fun _ h ev _ => h.step ev

/-- along a run `tried` stays below the chain length plus the largest number of proposals tried in one
    iteration (`max C 1`: with chain length 0 the first chain iteration still runs) -/
theorem run_bound {m : Nat} (evs : List Event) {s : State} (hs : BInv s)
    (ht : s.tried < max s.chainLength 1 + m) (hev : ∀ ev ∈ evs, tries ev ≤ m) :
    BInv (run s evs) ∧ (run s evs).chainLength = s.chainLength ∧
      (run s evs).tried < max s.chainLength 1 + m := by
  induction evs generalizing s with
  | nil => exact ⟨hs, rfl, ht⟩
  | cons ev evs ih =>
    rw [run]
    split
    · exact ⟨hs, rfl, ht⟩
    · rename_i hfs
      rw [← step_chainLength s ev]
      refine ih (hs.step ev) ?_ fun e he => hev e (List.mem_cons_of_mem _ he)
      simp only [finished, ge_iff_le, decide_eq_true_eq] at hfs
      have hm := hev ev List.mem_cons_self
      rw [step_chainLength, step_tried hs]
      split <;> omega

theorem foldl_tried_started (evs : List Event) {s : State} (hl : learning s = false) (ht : 0 ≤ s.tried) :
    (evs.foldl step s).tried = s.tried + ((evs.map tries).sum : Nat) := by
  induction evs generalizing s with
  | nil => simp
  | cons ev evs ih =>
    have hst := step_tried_started ev hl ht
    simp only [List.foldl_cons, List.map_cons, List.sum_cons]
    rw [ih (step_not_learning ev hl) (by rw [hst]; omega), hst]
    omega

end MTfitVerif.Chain
