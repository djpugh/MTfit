import MTfitVerif.Model.Acceptance
import MTfitVerif.Real.RatioPdfLemmas
/-
  Helper lemmas for C05 (Markov-chain acceptance): the Gaussian density and CDF of the proposal
  (the CDF is an antiderivative of the density, hence the normaliser of the truncated-Gaussian
  factor `truncTerm · m s lo hi` is positive and the factor a probability density on `[lo, hi]`;
  measurability), the proposal density and the Metropolis–Hastings ratio at `ℝ`, and the acceptance
  rule `accept` that the four acceptance functions of the model share, with its detailed balance.
-/
namespace MTfitVerif.Acceptance
open LogP Real MeasureTheory

/-! ### Gaussian density and CDF -/

theorem gaussPdf_eq (x μ s : ℝ) :
    gaussPdf x μ s = Real.exp (-(((x - μ) / s) * ((x - μ) / s)) / 2) / √(2 * π) / s := by
  simp only [gaussPdf, flt_exp, flt_sqrt, flt_pi, flt_c, Nat.cast_ofNat]

theorem gaussPdf_pos (x μ : ℝ) {s : ℝ} (hs : 0 < s) : 0 < gaussPdf x μ s := by
  rw [gaussPdf_eq]; positivity

theorem gaussPdf_symm (a b s : ℝ) : gaussPdf a b s = gaussPdf b a s := by
  rw [gaussPdf_eq, gaussPdf_eq]
  congr 3
  ring

theorem gaussPdf_continuous (μ s : ℝ) : Continuous fun x => gaussPdf x μ s := by
  simp only [gaussPdf_eq]
  fun_prop

theorem gaussCdf_eq (x μ s : ℝ) : gaussCdf x μ s = 1 / 2 * (1 + erf ((x - μ) / s / √2)) := by
  unfold gaussCdf; rw [RatioPdf.stdCdf_eq]

theorem gaussCdf_hasDerivAt (x μ s : ℝ) :
    HasDerivAt (fun x => gaussCdf x μ s) (gaussPdf x μ s) x := by
  have h := (((hasDerivAt_erf _).comp x
    ((((hasDerivAt_id' x).sub_const μ).div_const s).div_const √2)).const_add 1).const_mul (1 / 2 : ℝ)
  refine (h.congr_of_eventuallyEq (.of_forall fun y => gaussCdf_eq y μ s)).congr_deriv ?_
  rw [gaussPdf_eq, sqrt_two_pi, div_pow _ √2, Real.sq_sqrt zero_le_two, sq, ← neg_div]
  ring

theorem integral_Icc_gaussPdf (μ s : ℝ) {lo hi : ℝ} (hlh : lo ≤ hi) :
    ∫ x in Set.Icc lo hi, gaussPdf x μ s = gaussCdf hi μ s - gaussCdf lo μ s := by
  rw [integral_Icc_eq_integral_Ioc, ← intervalIntegral.integral_of_le hlh]
  exact intervalIntegral.integral_eq_sub_of_hasDerivAt (fun x _ => gaussCdf_hasDerivAt x μ s)
    ((gaussPdf_continuous μ s).intervalIntegrable _ _)

/-- the normaliser of `truncTerm` is positive -/
theorem gaussCdf_sub_pos (μ : ℝ) {s lo hi : ℝ} (hs : 0 < s) (hlh : lo < hi) :
    0 < gaussCdf hi μ s - gaussCdf lo μ s :=
  sub_pos.2 (strictMono_of_deriv_pos (f := fun x => gaussCdf x μ s)
    (fun x => by rw [(gaussCdf_hasDerivAt x μ s).deriv]; exact gaussPdf_pos x μ hs) hlh)

/-! ### the truncated-Gaussian factor is a probability density on `[lo, hi]` -/

theorem truncTerm_pos' (x m : ℝ) {s lo hi : ℝ} (hs : 0 < s) (hlh : lo < hi) :
    0 < truncTerm x m s lo hi :=
  div_pos (gaussPdf_pos x m hs) (gaussCdf_sub_pos m hs hlh)

theorem truncTerm_continuous (m s lo hi : ℝ) : Continuous fun x => truncTerm x m s lo hi :=
  (gaussPdf_continuous m s).div_const _

theorem integral_truncTerm_nonneg (m : ℝ) {s lo hi : ℝ} (hs : 0 < s) (hlh : lo < hi) (A : Set ℝ) :
    0 ≤ ∫ x in A, truncTerm x m s lo hi :=
  integral_nonneg (fun x => (truncTerm_pos' x m hs hlh).le)

theorem integral_Icc_truncTerm (m : ℝ) {s lo hi : ℝ} (hs : 0 < s) (hlh : lo < hi) :
    ∫ x in Set.Icc lo hi, truncTerm x m s lo hi = 1 := by
  unfold truncTerm
  rw [integral_div, integral_Icc_gaussPdf m s hlh.le, div_self (gaussCdf_sub_pos m hs hlh).ne']

theorem setLIntegral_truncTerm (m : ℝ) {s lo hi : ℝ} (hs : 0 < s) (hlh : lo < hi) {A : Set ℝ}
    (hA : A ⊆ Set.Icc lo hi) :
    ∫⁻ x in A, ENNReal.ofReal (truncTerm x m s lo hi)
      = ENNReal.ofReal (∫ x in A, truncTerm x m s lo hi) :=
  (ofReal_integral_eq_lintegral_ofReal
    (((truncTerm_continuous m s lo hi).continuousOn.integrableOn_compact isCompact_Icc).mono_set hA)
    (Filter.Eventually.of_forall fun x => (truncTerm_pos' x m hs hlh).le)).symm

theorem lintegral_truncTerm (m : ℝ) {s lo hi : ℝ} (hs : 0 < s) (hlh : lo < hi) :
    ∫⁻ x in Set.Icc lo hi, ENNReal.ofReal (truncTerm x m s lo hi) = 1 := by
  rw [setLIntegral_truncTerm m hs hlh subset_rfl, integral_Icc_truncTerm m hs hlh,
    ENNReal.ofReal_one]

/-! ### measurability of the proposal density -/

theorem measurable_gaussPdf (s : ℝ) : Measurable fun p : ℝ × ℝ => gaussPdf p.1 p.2 s := by
  simp only [gaussPdf_eq]
  exact Continuous.measurable (by fun_prop)

theorem measurable_gaussCdf (x s : ℝ) : Measurable fun m : ℝ => gaussCdf x m s := by
  simp only [gaussCdf_eq]
  exact Continuous.measurable (by fun_prop)

theorem measurable_truncTerm (s lo hi : ℝ) :
    Measurable fun p : ℝ × ℝ => truncTerm p.1 p.2 s lo hi := by
  unfold truncTerm
  exact (measurable_gaussPdf s).div
    (((measurable_gaussCdf hi s).sub (measurable_gaussCdf lo s)).comp measurable_snd)

theorem measurable_truncTerm_left (m s lo hi : ℝ) : Measurable fun x : ℝ => truncTerm x m s lo hi :=
  (truncTerm_continuous m s lo hi).measurable

/-! ### the proposal density and the Metropolis–Hastings ratio at `ℝ` -/

theorem pi_div_six_pos : 0 < π / 6 := div_pos pi_pos (by norm_num)
theorem neg_pi_div_six_lt : -(π / 6) < π / 6 := neg_lt_self pi_div_six_pos
theorem neg_pi_div_two_lt : -(π / 2) < π / 2 := neg_lt_self pi_div_two_pos

theorem transPdf_true (w : Widths ℝ) (x x1 : Tape ℝ) :
    transPdf true w x x1
      = truncTerm x.h x1.h w.h 0 1 * truncTerm x.sigma x1.sigma w.sigma (-(π / 2)) (π / 2) := by
  simp only [transPdf, if_true, flt_pi, flt_c, Nat.cast_ofNat, Nat.cast_zero, Nat.cast_one, one_mul]

theorem transPdf_false (w : Widths ℝ) (x x1 : Tape ℝ) :
    transPdf false w x x1
      = truncTerm x.gamma x1.gamma w.gamma (-(π / 6)) (π / 6)
        * truncTerm x.delta x1.delta w.delta (-(π / 2)) (π / 2)
        * truncTerm x.h x1.h w.h 0 1 * truncTerm x.sigma x1.sigma w.sigma (-(π / 2)) (π / 2) := by
  simp only [transPdf, Bool.false_eq_true, if_false, flt_pi, flt_c, Nat.cast_ofNat, Nat.cast_zero,
    Nat.cast_one]

theorem mhRatio_eq (prior : Bool → Tape ℝ → ℝ) (dc : Bool) (w : Widths ℝ) (xi x : Tape ℝ) :
    mhRatio prior dc w xi x =
      if 0 < transPdf dc w x xi ∧ 0 < prior dc xi then
        some (transPdf dc w xi x * prior dc x / (transPdf dc w x xi * prior dc xi))
      else none := by
  unfold mhRatio
  simp only [flt_ltb, flt_c, Nat.cast_zero, Bool.and_eq_true, decide_eq_true_eq]

theorem mhRatio_of_pos (prior : Bool → Tape ℝ → ℝ) (dc : Bool) (w : Widths ℝ) (xi x : Tape ℝ)
    (hq : 0 < transPdf dc w x xi) (hp : 0 < prior dc xi) :
    mhRatio prior dc w xi x =
      some (transPdf dc w xi x * prior dc x / (transPdf dc w x xi * prior dc xi)) := by
  rw [mhRatio_eq, if_pos ⟨hq, hp⟩]

theorem mhRatio_of_prior_zero (prior : Bool → Tape ℝ → ℝ) (dc : Bool) (w : Widths ℝ) (xi x : Tape ℝ)
    (hp : prior dc xi = 0) : mhRatio prior dc w xi x = none := by
  rw [mhRatio_eq, if_neg]
  rintro ⟨_, h⟩
  rw [hp] at h
  exact lt_irrefl _ h

/-! ### the acceptance rule

  The four acceptance functions of the model (`acceptMH`, `acceptMulti`, `acceptJumpUp`,
  `acceptJumpDown`) are one rule, `accept`, applied to four different ratios; everything that does
  not depend on the ratio is proved about `accept`. -/

/-- the acceptance rule over `ℝ`: `Lxi` the log-likelihood of the current state, `Lx` of the
    proposal, `r` the ratio target × proposal density (`none`: its denominator is not positive) -/
noncomputable def accept (r : Option ℝ) : LogP ℝ → LogP ℝ → ℝ
  | _, negInf => 0
  | negInf, fin _ => 1
  | fin lxi, fin lx =>
    match r with
    | none => 1
    | some r => min 1 (r * Real.exp (lx - lxi))

theorem acceptMH_eq_accept (prior : Bool → Tape ℝ → ℝ) (dc : Bool) (w : Widths ℝ) (xi x : Tape ℝ)
    (Lxi Lx : LogP ℝ) : acceptMH prior dc w xi x Lxi Lx = accept (mhRatio prior dc w xi x) Lxi Lx := by
  cases Lxi <;> cases Lx <;> simp only [acceptMH, accept, flt_c, Nat.cast_zero, Nat.cast_one]
  cases mhRatio prior dc w xi x <;> simp only [fmin_eq, flt_exp]

theorem acceptMulti_eq_accept (prior : Bool → Tape ℝ → ℝ)
    (evs : List (Bool × Widths ℝ × Tape ℝ × Tape ℝ)) (Lxi Lx : LogP ℝ) :
    acceptMulti prior evs Lxi Lx = accept (mhRatioMulti prior evs) Lxi Lx := by
  cases h : mhRatioMulti prior evs <;> cases Lxi <;> cases Lx <;>
    simp only [acceptMulti, accept, h, fmin_eq, flt_c, flt_exp, Nat.cast_zero, Nat.cast_one]

theorem acceptJumpUp_eq_accept (prior : Bool → Tape ℝ → ℝ) (w : Widths ℝ) (xi x : Tape ℝ) (p : ℝ)
    (Lxi Lx : LogP ℝ) :
    acceptJumpUp prior w xi x p Lxi Lx
      = accept (some (prior false x / (jumpQ w x * prior true xi) * ((1 - p) / p))) Lxi Lx := by
  cases Lxi <;> cases Lx <;>
    simp only [acceptJumpUp, accept, fmin_eq, flt_c, flt_exp, Nat.cast_zero, Nat.cast_one]

theorem acceptJumpDown_eq_accept (prior : Bool → Tape ℝ → ℝ) (w : Widths ℝ) (xi x : Tape ℝ) (p : ℝ)
    (Lxi Lx : LogP ℝ) :
    acceptJumpDown prior w xi x p Lxi Lx
      = accept (some (jumpQ w xi * prior true x / prior false xi * (p / (1 - p)))) Lxi Lx := by
  cases Lxi <;> cases Lx <;>
    simp only [acceptJumpDown, accept, fmin_eq, flt_c, flt_exp, Nat.cast_zero, Nat.cast_one]

theorem accept_negInf_right (r : Option ℝ) (Lxi : LogP ℝ) : accept r Lxi negInf = 0 := by
  cases Lxi <;> rfl

theorem accept_negInf_left (r : Option ℝ) (lx : ℝ) : accept r negInf (fin lx) = 1 := rfl

theorem accept_mem_Icc {r : Option ℝ} (hr : ∀ a ∈ r, 0 ≤ a) (Lxi Lx : LogP ℝ) :
    0 ≤ accept r Lxi Lx ∧ accept r Lxi Lx ≤ 1 :=
  match Lxi, Lx, r, hr with
  | negInf, negInf, _, _ | fin _, negInf, _, _ => ⟨le_rfl, zero_le_one⟩
  | negInf, fin _, _, _ | fin _, fin _, none, _ => ⟨zero_le_one, le_rfl⟩
  | fin _, fin _, some _, hr =>
    ⟨le_min zero_le_one (mul_nonneg (hr _ rfl) (Real.exp_pos _).le), min_le_left _ _⟩

theorem accept_some_mem_Icc {r : ℝ} (hr : 0 ≤ r) (Lxi Lx : LogP ℝ) :
    0 ≤ accept (some r) Lxi Lx ∧ accept (some r) Lxi Lx ≤ 1 :=
  accept_mem_Icc (fun _ ha => Option.mem_some_iff.mp ha ▸ hr) Lxi Lx

theorem accept_eq_ite (r : Option ℝ) (Lxi Lx : LogP ℝ) :
    accept r Lxi Lx = if toProb Lx = 0 then 0 else if toProb Lxi = 0 then 1 else
      r.elim 1 fun r => min 1 (r * (toProb Lx / toProb Lxi)) := by
  cases Lxi <;> cases Lx <;> cases r <;>
    simp only [accept, toProb_negInf, toProb_fin, if_true, (Real.exp_pos _).ne', if_false,
      Option.elim, Real.exp_sub]

/-- `acceptMH` in terms of the likelihoods `toProb L` (no case split on `LogP`) -/
theorem acceptMH_eq_ite (prior : Bool → Tape ℝ → ℝ) (dc : Bool) (w : Widths ℝ) (xi x : Tape ℝ)
    (Lxi Lx : LogP ℝ) :
    acceptMH prior dc w xi x Lxi Lx =
      if toProb Lx = 0 then 0 else if toProb Lxi = 0 then 1 else
      if 0 < transPdf dc w x xi ∧ 0 < prior dc xi then
        min 1 (transPdf dc w xi x * prior dc x / (transPdf dc w x xi * prior dc xi)
          * (toProb Lx / toProb Lxi))
      else 1 := by
  rw [acceptMH_eq_accept, mhRatio_eq, accept_eq_ite]
  by_cases h : 0 < transPdf dc w x xi ∧ 0 < prior dc xi
  · rw [if_pos h, if_pos h]; rfl
  · rw [if_neg h, if_neg h]; rfl

/-- the core of every detailed-balance statement: the accepted flow is the smaller of the two flows
    (with `x / 0 = 0` a vanishing flow is harmless) -/
theorem mul_min_one_div {u v : ℝ} (hu : 0 ≤ u) (hv : 0 ≤ v) : u * min 1 (v / u) = min u v := by
  rcases hu.eq_or_lt with rfl | hu
  · rw [zero_mul, min_eq_left hv]
  · rw [mul_min_of_nonneg _ _ hu.le, mul_one, mul_div_cancel₀ _ hu.ne']

theorem min_ratio_swap_of_nonneg {u v : ℝ} (hu : 0 ≤ u) (hv : 0 ≤ v) :
    u * min 1 (v / u) = v * min 1 (u / v) := by
  rw [mul_min_one_div hu hv, mul_min_one_div hv hu, min_comm]

/-- **detailed balance of the acceptance rule**: for flows `u`, `v` (target × proposal density
    without the likelihoods) in the two directions, zero likelihoods and vanishing flows included -/
theorem accept_balance {u v : ℝ} (hu : 0 ≤ u) (hv : 0 ≤ v) (Lxi Lx : LogP ℝ) :
    u * toProb Lxi * accept (some (v / u)) Lxi Lx = v * toProb Lx * accept (some (u / v)) Lx Lxi := by
  cases Lxi with
  | negInf => cases Lx <;> simp only [accept, toProb_negInf, mul_zero, zero_mul]
  | fin l =>
    cases Lx with
    | negInf => simp only [accept, toProb_negInf, mul_zero, zero_mul]
    | fin l' =>
      have h := min_ratio_swap_of_nonneg (mul_nonneg hu (Real.exp_pos l).le)
        (mul_nonneg hv (Real.exp_pos l').le)
      rwa [← div_mul_div_comm, ← div_mul_div_comm, ← Real.exp_sub, ← Real.exp_sub] at h

/-- whatever the prior of the current state, `prior × acceptance` is `prior × accept (some ratio)`:
    where the code has no ratio (`mhRatio = none`) the prior vanishes -/
theorem prior_mul_acceptMH (prior : Bool → Tape ℝ → ℝ) (dc : Bool) (w : Widths ℝ) {xi x : Tape ℝ}
    (hp : 0 ≤ prior dc xi) (hq : 0 < transPdf dc w x xi) (Lxi Lx : LogP ℝ) :
    prior dc xi * acceptMH prior dc w xi x Lxi Lx
      = prior dc xi * accept (some (transPdf dc w xi x * prior dc x
          / (transPdf dc w x xi * prior dc xi))) Lxi Lx := by
  rcases hp.eq_or_lt with h | h
  · rw [← h, zero_mul, zero_mul]
  · rw [acceptMH_eq_accept, mhRatio_of_pos prior dc w xi x hq h]

theorem acceptMH_balance (prior : Bool → Tape ℝ → ℝ) (dc : Bool) (w : Widths ℝ) {xi x : Tape ℝ}
    (hpxi : 0 ≤ prior dc xi) (hpx : 0 ≤ prior dc x) (hqf : 0 < transPdf dc w x xi)
    (hqb : 0 < transPdf dc w xi x) (Lxi Lx : LogP ℝ) :
    prior dc xi * toProb Lxi * transPdf dc w x xi * acceptMH prior dc w xi x Lxi Lx
      = prior dc x * toProb Lx * transPdf dc w xi x * acceptMH prior dc w x xi Lx Lxi := by
  have h := accept_balance (mul_nonneg hqf.le hpxi) (mul_nonneg hqb.le hpx) Lxi Lx
  have h1 := prior_mul_acceptMH prior dc w hpxi hqf Lxi Lx
  have h2 := prior_mul_acceptMH prior dc w hpx hqb Lx Lxi
  linear_combination toProb Lxi * transPdf dc w x xi * h1 - toProb Lx * transPdf dc w xi x * h2 + h

theorem acceptJump_balance (prior : Bool → Tape ℝ → ℝ) (w : Widths ℝ) {xiDc x : Tape ℝ} {p : ℝ}
    (hdc : 0 ≤ prior true xiDc) (hmt : 0 ≤ prior false x) (hq : 0 ≤ jumpQ w x) (hp0 : 0 ≤ p)
    (hp1 : p ≤ 1) (Lxi Lx : LogP ℝ) :
    prior true xiDc * p * toProb Lxi * jumpQ w x * acceptJumpUp prior w xiDc x p Lxi Lx
      = prior false x * (1 - p) * toProb Lx * acceptJumpDown prior w x xiDc p Lx Lxi := by
  rw [acceptJumpUp_eq_accept, acceptJumpDown_eq_accept, div_mul_div_comm, div_mul_div_comm]
  linear_combination accept_balance (mul_nonneg (mul_nonneg hq hdc) hp0)
    (mul_nonneg hmt (sub_nonneg.2 hp1)) Lxi Lx

/-! ### the shipped flat prior -/

theorem flatPrior_nonneg (b : Bool) (t : Tape ℝ) : 0 ≤ flatPrior b t := by
  have := Real.pi_pos
  cases b <;> simp only [flatPrior, flt_c, flt_pi, Bool.false_eq_true, if_false, if_true] <;>
    positivity

end MTfitVerif.Acceptance
