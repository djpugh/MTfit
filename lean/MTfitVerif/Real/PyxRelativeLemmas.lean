import MTfitVerif.Real.PyxLoopLemmas
/-
  Helper lemmas for `Props/C20Relative.lean`: the loops of the compiled relative-amplitude kernels
  (`scale_estimator`, `relative_amplitude_ratio_ln_pdf` of cprobability.pyx) read as folds — the inner `k` loop that
  accumulates the modelled amplitudes in `mux[u]`, `muy[u]`, the station loop that initialises cell `[v, w]` of `mu`, `s` at
  station 0 and folds the later stations in with `combine_mu` / `combine_s`, and the `v`, `w` loops that fill the result arrays.
  Core/Std only; everything is polymorphic in the scalar type.
-/
namespace MTfitVerif
namespace PyxRel
open PyxLoop

section plain
variable {α : Type}

/-! ### folds -/

theorem foldl_congr_mem {β ι : Type} (l : List ι) (f g : β → ι → β) (h : ∀ s k, k ∈ l → f s k = g s k) (a : β) :
    l.foldl f a = l.foldl g a := by
  induction l generalizing a with
  | nil => rfl
  | cons k l ih =>
    simp only [List.foldl_cons]
    rw [h a k List.mem_cons_self]
    exact ih (fun s k hk => h s k (List.mem_cons_of_mem _ hk)) _

/-! ### filling the `vmax × wmax` result arrays, `v` in the outer loop -/

/-- cell `v * wmax + w` is overwritten with `F v w`, for `v` (outer loop) and `w` (inner loop) in range -/
def fillVW (F : Nat → Nat → α) (vmax wmax : Nat) (P : Array α) : Array α :=
  (List.range vmax).foldl
    (fun P v => (List.range wmax).foldl (fun P w => P.setIfInBounds (v * wmax + w) (F v w)) P) P

theorem fillVW_eq_flat (F : Nat → Nat → α) (vmax wmax : Nat) (P : Array α) :
    fillVW F vmax wmax P
      = ((List.range vmax).flatMap (fun v => (List.range wmax).map (fun w => (v, w)))).foldl
          (fun P y => P.setIfInBounds (y.1 * wmax + y.2) (F y.1 y.2)) P := by
  simp only [fillVW, List.foldl_flatMap, List.foldl_map]

theorem size_fillVW (F : Nat → Nat → α) (vmax wmax : Nat) (P : Array α) :
    (fillVW F vmax wmax P).size = P.size := by
  rw [fillVW_eq_flat]
  exact size_foldl_write _ (fun y : Nat × Nat => y.1 * wmax + y.2) (fun y _ => F y.1 y.2) P

theorem getD_fillVW (F : Nat → Nat → α) (vmax wmax : Nat) (P : Array α) (d : α) (hsize : vmax * wmax ≤ P.size)
    {v w : Nat} (hv : v < vmax) (hw : w < wmax) :
    (fillVW F vmax wmax P).getD (v * wmax + w) d = F v w := by
  rw [fillVW_eq_flat]
  refine getD_foldl_set_cell _ F wmax P d ?_ ?_ (Nat.lt_of_lt_of_le (cell_lt hv hw) hsize)
  · exact List.mem_flatMap.mpr ⟨v, List.mem_range.mpr hv, List.mem_map.mpr ⟨w, List.mem_range.mpr hw, rfl⟩⟩
  · intro y hy
    obtain ⟨_, _, hy⟩ := List.mem_flatMap.mp hy
    obtain ⟨w', hw', rfl⟩ := List.mem_map.mp hy
    exact List.mem_range.mp hw'

theorem fillVW_pair (F1 F2 : Nat → Nat → α) (vmax wmax : Nat) (P Q : Array α) :
    (List.range vmax).foldl (fun (M : Array α × Array α) v => (List.range wmax).foldl (fun (M : Array α × Array α) w =>
        (M.1.setIfInBounds (v * wmax + w) (F1 v w), M.2.setIfInBounds (v * wmax + w) (F2 v w))) M) (P, Q)
      = (fillVW F1 vmax wmax P, fillVW F2 vmax wmax Q) := by
  unfold fillVW
  refine Prod.ext ?_ ?_
  · refine foldl_proj _ _ Prod.fst _ (fun s v => ?_) _
    exact foldl_proj _ _ Prod.fst _ (fun _ _ => rfl) _
  · refine foldl_proj _ _ Prod.snd _ (fun s v => ?_) _
    exact foldl_proj _ _ Prod.snd _ (fun _ _ => rfl) _

/-! ### filling the `umax × vmax × wmax` array, `v`, `w` in the outer loops and `u` in the innermost -/

/-- cell `(u * vmax + v) * wmax + w` is overwritten with `G u v w`, in the order `v`, `w`, `u` of the code -/
def fillUVW (G : Nat → Nat → Nat → α) (umax vmax wmax : Nat) (P : Array α) : Array α :=
  (List.range vmax).foldl
    (fun P v => (List.range wmax).foldl
      (fun P w => (List.range umax).foldl (fun P u => P.setIfInBounds ((u * vmax + v) * wmax + w) (G u v w)) P) P) P

theorem fillUVW_eq_flat (G : Nat → Nat → Nat → α) (umax vmax wmax : Nat) (P : Array α) :
    fillUVW G umax vmax wmax P
      = ((List.range vmax).flatMap (fun v => (List.range wmax).flatMap (fun w =>
            (List.range umax).map (fun u => (u, v, w))))).foldl
          (fun P y => P.setIfInBounds ((y.1 * vmax + y.2.1) * wmax + y.2.2) (G y.1 y.2.1 y.2.2)) P := by
  simp only [fillUVW, List.foldl_flatMap, List.foldl_map]

theorem size_fillUVW (G : Nat → Nat → Nat → α) (umax vmax wmax : Nat) (P : Array α) :
    (fillUVW G umax vmax wmax P).size = P.size := by
  rw [fillUVW_eq_flat]
  exact size_foldl_write _ (fun y : Nat × Nat × Nat => (y.1 * vmax + y.2.1) * wmax + y.2.2)
    (fun y _ => G y.1 y.2.1 y.2.2) P

theorem getD_fillUVW (G : Nat → Nat → Nat → α) (umax vmax wmax : Nat) (P : Array α) (d : α)
    (hsize : umax * vmax * wmax ≤ P.size) {u v w : Nat} (hu : u < umax) (hv : v < vmax) (hw : w < wmax) :
    (fillUVW G umax vmax wmax P).getD ((u * vmax + v) * wmax + w) d = G u v w := by
  rw [fillUVW_eq_flat]
  refine getD_foldl_set _ (fun y : Nat × Nat × Nat => (y.1 * vmax + y.2.1) * wmax + y.2.2)
    (fun y => G y.1 y.2.1 y.2.2) P d (u, v, w) ?_ ?_ ?_
  · simp only [List.mem_flatMap, List.mem_map, List.mem_range]
    exact ⟨v, hv, w, hw, u, hu, rfl⟩
  · rintro ⟨u', v', w'⟩ hy h
    simp only [List.mem_flatMap, List.mem_map, List.mem_range, Prod.mk.injEq] at hy
    obtain ⟨v'', hv'', w'', hw'', u'', hu'', rfl, rfl, rfl⟩ := hy
    obtain ⟨h1, rfl⟩ := cell_inj hw hw'' h
    obtain ⟨rfl, rfl⟩ := cell_inj hv hv'' h1
    rfl
  · exact Nat.lt_of_lt_of_le (cell_lt (cell_lt hu hv) hw) hsize

theorem fill_triple (G : Nat → Nat → Nat → α) (F1 F2 : Nat → Nat → α) (umax vmax wmax : Nat) (L P Q : Array α) :
    (List.range vmax).foldl (fun (M : Array α × Array α × Array α) v =>
        (List.range wmax).foldl (fun (M : Array α × Array α × Array α) w =>
          ((List.range umax).foldl (fun (L : Array α) u => L.setIfInBounds ((u * vmax + v) * wmax + w) (G u v w)) M.1,
            M.2.1.setIfInBounds (v * wmax + w) (F1 v w), M.2.2.setIfInBounds (v * wmax + w) (F2 v w))) M) (L, P, Q)
      = (fillUVW G umax vmax wmax L, fillVW F1 vmax wmax P, fillVW F2 vmax wmax Q) := by
  unfold fillVW fillUVW
  refine Prod.ext ?_ (Prod.ext ?_ ?_)
  · refine foldl_proj _ _ Prod.fst _ (fun s v => ?_) _
    exact foldl_proj _ _ Prod.fst _ (fun _ _ => rfl) _
  · refine foldl_proj _ _ (fun M : Array α × Array α × Array α => M.2.1) _ (fun s v => ?_) _
    exact foldl_proj _ _ (fun M : Array α × Array α × Array α => M.2.1) _ (fun _ _ => rfl) _
  · refine foldl_proj _ _ (fun M : Array α × Array α × Array α => M.2.2) _ (fun s v => ?_) _
    exact foldl_proj _ _ (fun M : Array α × Array α × Array α => M.2.2) _ (fun _ _ => rfl) _

theorem fst_ite_set {τ : Type} (p : Prop) [Decidable p] (L : Array α) (j : Nat) (a b : α) (t t' : τ) :
    (if p then (L.setIfInBounds j a, t) else (L.setIfInBounds j b, t')).1 = L.setIfInBounds j (if p then a else b) := by
  split <;> rfl

end plain

variable {α : Type} [Add α] [Sub α] [Mul α] [Div α] [Neg α] [Flt α]

/-! ### the inner `k` loop: modelled amplitudes accumulated in `mux[u]`, `muy[u]` -/

/-- `mux[u] = 0; muy[u] = 0; for k: mux[u] += e1 k; muy[u] += e2 k`: the whole final loop state (so that one `rw`/`simp only`
    replaces every copy of the loop in a kernel) -/
theorem kloop2 (mux muy : Array α) (u : Nat) (e1 e2 : Nat → α) (k0 : Nat) (l : List Nat) :
    l.foldl (fun (s : Array α × Array α × Nat) k =>
        (s.1.setIfInBounds u (s.1.getD u (c 0) + e1 k), s.2.1.setIfInBounds u (s.2.1.getD u (c 0) + e2 k), k))
        (mux.setIfInBounds u (c 0), muy.setIfInBounds u (c 0), k0)
      = (mux.setIfInBounds u (l.foldl (fun x k => x + e1 k) (c 0)),
         muy.setIfInBounds u (l.foldl (fun x k => x + e2 k) (c 0)), l.foldl (fun _ k => k) k0) := by
  rw [foldl_prod3 l (fun (P : Array α) k => P.setIfInBounds u (P.getD u (c 0) + e1 k))
    (fun (P : Array α) k => P.setIfInBounds u (P.getD u (c 0) + e2 k)) (fun _ k => k), foldl_add_cell_zero,
    foldl_add_cell_zero]

/-- the two output-pointer arguments of `estimate_scale_mu_s` are not read -/
theorem estimate_ignores (x y mx my px py m s m' s' : α) :
    Pyx.cprobability.estimate_scale_mu_s x y mx my px py m s = Pyx.cprobability.estimate_scale_mu_s x y mx my px py m' s' :=
  rfl

/-! ### the station loop on cell `i` of `mu`, `s` -/

/-- fold one more station estimate `(μ, σ)` into the running pair with `combine_mu`, `combine_s` -/
def combK (acc st : α × α) : α × α :=
  (Pyx.cprobability.combine_mu acc.1 st.1 acc.2 st.2, Pyx.cprobability.combine_s acc.2 st.2)

/-- station 0's estimate, with stations `1 … umax-1` folded in -/
def cellFold (est : Nat → α × α) (umax : Nat) : α × α :=
  ((List.range' 1 (umax - 1)).map est).foldl combK (est 0)

/-- one pass of the station loop on the pair of arrays `(mu, s)` -/
def stStep (i : Nat) (est : Nat → α × α) (M : Array α × Array α) (u : Nat) : Array α × Array α :=
  if (u == 0) = true then (M.1.setIfInBounds i (est u).1, M.2.setIfInBounds i (est u).2)
  else
    (M.1.setIfInBounds i (Pyx.cprobability.combine_mu (M.1.getD i (c 0)) (est u).1 (M.2.getD i (c 0)) (est u).2),
      M.2.setIfInBounds i (Pyx.cprobability.combine_s (M.2.getD i (c 0)) (est u).2))

theorem cellFold_succ (est : Nat → α × α) (n : Nat) :
    cellFold est (n + 2) = combK (cellFold est (n + 1)) (est (n + 1)) := by
  unfold cellFold
  rw [show n + 2 - 1 = n + 1 from rfl, show n + 1 - 1 = n from rfl, List.range'_1_concat, List.map_append,
    List.foldl_append, Nat.add_comm 1 n]
  rfl

theorem stStep_fold (i : Nat) (est : Nat → α × α) (M : Array α × Array α) (n : Nat)
    (h1 : i < M.1.size) (h2 : i < M.2.size) :
    (List.range (n + 1)).foldl (stStep i est) M
      = (M.1.setIfInBounds i (cellFold est (n + 1)).1, M.2.setIfInBounds i (cellFold est (n + 1)).2) := by
  induction n with
  | zero => rfl
  | succ n ih =>
    rw [List.range_succ, List.foldl_append, ih]
    simp only [List.foldl_cons, List.foldl_nil, stStep, Nat.succ_ne_zero,
      beq_iff_eq, if_false, getD_setIfInBounds_self h1, getD_setIfInBounds_self h2,
      Array.setIfInBounds_setIfInBounds, cellFold_succ, combK]

/-- the sizes the loops of the relative kernels keep: `mu`, `s` of the shape `vmax × wmax`, room for `umax` stations in the
    scratch arrays `mux`, `muy` -/
def Sizes {τ : Type} (umax vmax wmax : Nat) (S : Array α × Array α × Array α × Array α × τ) : Prop :=
  S.1.size = vmax * wmax ∧ S.2.1.size = vmax * wmax ∧ umax ≤ S.2.2.1.size ∧ umax ≤ S.2.2.2.1.size

/-- the station loop of the relative kernels, for any loop state that begins with the arrays `mu`, `s`, `mux`, `muy`: if a pass
    acts on `(mu, s)` as `stStep` and writes `ax u`, `ay u` to `mux[u]`, `muy[u]`, the loop overwrites cell `i` of `mu`, `s`
    with the combined estimate and fills `mux`, `muy` -/
theorem station_fold {τ : Type} {G : Array α × Array α × Array α × Array α × τ → Nat → Array α × Array α × Array α × Array α × τ}
    {S U : Array α × Array α × Array α × Array α × τ} {umax vmax wmax : Nat} (hU : (List.range umax).foldl G S = U)
    (i : Nat) (est : Nat → α × α) (ax ay : Nat → α) (hS : Sizes umax vmax wmax S) (hi : i < vmax * wmax) (hu : 1 ≤ umax)
    (hG : ∀ S u, u < umax → u < S.2.2.1.size → u < S.2.2.2.1.size → ∃ t, G S u =
      if (u == 0) = true then
        (S.1.setIfInBounds i (est u).1, S.2.1.setIfInBounds i (est u).2, S.2.2.1.setIfInBounds u (ax u),
          S.2.2.2.1.setIfInBounds u (ay u), t)
      else
        (S.1.setIfInBounds i (Pyx.cprobability.combine_mu (S.1.getD i (c 0)) (est u).1 (S.2.1.getD i (c 0)) (est u).2),
          S.2.1.setIfInBounds i (Pyx.cprobability.combine_s (S.2.1.getD i (c 0)) (est u).2),
          S.2.2.1.setIfInBounds u (ax u), S.2.2.2.1.setIfInBounds u (ay u), t)) :
    (U.1 = S.1.setIfInBounds i (cellFold est umax).1 ∧ U.2.1 = S.2.1.setIfInBounds i (cellFold est umax).2 ∧
      ∀ u, u < umax → U.2.2.1.getD u (c 0) = ax u ∧ U.2.2.2.1.getD u (c 0) = ay u) ∧ Sizes umax vmax wmax U := by
  subst hU
  obtain ⟨n, rfl⟩ : ∃ n, umax = n + 1 := ⟨umax - 1, by omega⟩
  have H := ((foldl_sim (List.range (n + 1)) G (fun S => ((S.1, S.2.1), S.2.2.1, S.2.2.2.1)) _
    (fun S => n + 1 ≤ S.2.2.1.size ∧ n + 1 ≤ S.2.2.2.1.size) ?_ S hS.2.2).1.trans
    (foldl_prod3 _ (stStep i est) (fun (X : Array α) u => X.setIfInBounds u (ax u))
      (fun (Y : Array α) u => Y.setIfInBounds u (ay u)) _ _ _)).trans
    (congrArg (·, _) (stStep_fold i est _ n (hS.1 ▸ hi) (hS.2.1 ▸ hi)))
  · have e1 := congrArg (·.1.1) H
    have e2 := congrArg (·.1.2) H
    have e3 := congrArg (·.2.1) H
    have e4 := congrArg (·.2.2) H
    dsimp only at e1 e2 e3 e4
    refine ⟨⟨e1, e2, fun u hu => ?_⟩, ?_, ?_, ?_, ?_⟩
    · rw [e3, e4]
      exact ⟨getD_foldl_set_self ax _ _ _ hS.2.2.1 hu, getD_foldl_set_self ay _ _ _ hS.2.2.2 hu⟩
    · rw [e1, Array.size_setIfInBounds]; exact hS.1
    · rw [e2, Array.size_setIfInBounds]; exact hS.2.1
    · rw [e3, size_foldl_write]; exact hS.2.2.1
    · rw [e4, size_foldl_write]; exact hS.2.2.2
  · intro S u hu hS
    have hu' := List.mem_range.mp hu
    obtain ⟨t, e⟩ := hG S u hu' (Nat.lt_of_lt_of_le hu' hS.1) (Nat.lt_of_lt_of_le hu' hS.2)
    have e' : G S u = ((stStep i est (S.1, S.2.1) u).1, (stStep i est (S.1, S.2.1) u).2, S.2.2.1.setIfInBounds u (ax u),
        S.2.2.2.1.setIfInBounds u (ay u), t) := by
      rw [e]
      unfold stStep
      by_cases h0 : (u == 0) = true
      · rw [if_pos h0, if_pos h0]
      · rw [if_neg h0, if_neg h0]
    rw [e']
    refine ⟨rfl, ?_, ?_⟩
    · rw [Array.size_setIfInBounds]; exact hS.1
    · rw [Array.size_setIfInBounds]; exact hS.2

end PyxRel
end MTfitVerif
