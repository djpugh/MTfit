import MTfitVerif.Model.MultiEvent
import MTfitVerif.Real.Inst
import MTfitVerif.Real.WeightedMeanLemmas
/-
  Helper lemmas for C15 (relative scale factor): the fold invariant of `combineMu`, the
  algebraic normal form of `stationScale` at equal fractional errors, and the elementary
  limit `exp(-1/(2e²))/e → 0`.
-/
namespace MTfitVerif.Scale
open MultiEvent Filter Topology

/-- sum of the inverse variances -/
noncomputable def wSum (xs : List (ℝ × ℝ)) : ℝ := (xs.map fun x => 1 / x.2 ^ 2).sum
/-- sum of the estimates weighted with the inverse variances -/
noncomputable def mSum (xs : List (ℝ × ℝ)) : ℝ := (xs.map fun x => x.1 / x.2 ^ 2).sum

@[simp] theorem wSum_nil : wSum [] = 0 := rfl
@[simp] theorem mSum_nil : mSum [] = 0 := rfl
@[simp] theorem wSum_cons (x : ℝ × ℝ) (xs : List (ℝ × ℝ)) :
    wSum (x :: xs) = 1 / x.2 ^ 2 + wSum xs := rfl
@[simp] theorem mSum_cons (x : ℝ × ℝ) (xs : List (ℝ × ℝ)) :
    mSum (x :: xs) = x.1 / x.2 ^ 2 + mSum xs := rfl

theorem wSum_ge_of_mem {xs : List (ℝ × ℝ)} {x : ℝ × ℝ} (hx : x ∈ xs) : 1 / x.2 ^ 2 ≤ wSum xs :=
  List.single_le_sum (fun y hy => by obtain ⟨z, -, rfl⟩ := List.mem_map.1 hy; positivity) _
    (List.mem_map_of_mem (f := fun x : ℝ × ℝ => 1 / x.2 ^ 2) hx)

theorem wSum_pos {xs : List (ℝ × ℝ)} (hne : xs ≠ []) (hpos : ∀ x ∈ xs, 0 < x.2) : 0 < wSum xs := by
  obtain ⟨x, hx⟩ := List.exists_mem_of_ne_nil _ hne
  exact lt_of_lt_of_le (by have := hpos x hx; positivity) (wSum_ge_of_mem hx)

theorem wSum_perm {xs ys : List (ℝ × ℝ)} (h : xs.Perm ys) : wSum xs = wSum ys :=
  (h.map _).sum_eq
theorem mSum_perm {xs ys : List (ℝ × ℝ)} (h : xs.Perm ys) : mSum xs = mSum ys :=
  (h.map _).sum_eq

theorem combineStep_eq (m s x t : ℝ) :
    combineStep (m, s) (x, t) =
      ((m * (t * t) + x * (s * s)) / (s * s + t * t), s * t / Real.sqrt (s * s + t * t)) :=
  rfl

/-- with the weighted sum `P = m/s²` and the precision `W = 1/s²` as coordinates, a step of
    `combine_mu` is addition -/
theorem combineStep_inv {P W p u : ℝ} (hW : 0 < W) (hu : 0 < u) :
    combineStep (P / W, 1 / Real.sqrt W) (p / u, 1 / Real.sqrt u) =
      ((P + p) / (W + u), 1 / Real.sqrt (W + u)) := by
  have hs : ∀ {w : ℝ}, 0 < w → 1 / Real.sqrt w * (1 / Real.sqrt w) = 1 / w := fun hw => by
    rw [div_mul_div_comm, Real.mul_self_sqrt hw.le, one_mul]
  have h : 1 / W + 1 / u = (W + u) / (W * u) := by
    rw [div_add_div _ _ hW.ne' hu.ne', one_mul, mul_one, add_comm]
  rw [combineStep_eq, hs hW, hs hu, h]
  -- the mean: numerator and denominator over `W u`
  rw [div_mul_div_comm, div_mul_div_comm, mul_one, mul_one, mul_comm u W, ← add_div,
    div_div_div_cancel_right₀ (mul_pos hW hu).ne']
  -- the standard deviation: the same under the root
  rw [Real.sqrt_div (add_pos hW hu).le, Real.sqrt_mul hW.le, div_mul_div_comm, one_mul,
    div_div_div_cancel_right₀ (mul_pos (Real.sqrt_pos.2 hW) (Real.sqrt_pos.2 hu)).ne']

/-- every `(m, s)` with `0 < s` has the form `(P / W, 1 / √W)` of `combineStep_inv`, with `P = m/s²`, `W = 1/s²` -/
theorem eq_inv_form {x : ℝ × ℝ} (hx : 0 < x.2) :
    x = ((x.1 / x.2 ^ 2) / (1 / x.2 ^ 2), 1 / Real.sqrt (1 / x.2 ^ 2)) := by
  rw [div_div_div_cancel_right₀ (pow_pos hx 2).ne', div_one, one_div, one_div, Real.sqrt_inv,
    Real.sqrt_sq hx.le, inv_inv]

theorem foldl_combineStep (xs : List (ℝ × ℝ)) (P W : ℝ) (hW : 0 < W) (hpos : ∀ x ∈ xs, 0 < x.2) :
    xs.foldl combineStep (P / W, 1 / Real.sqrt W) =
      ((P + mSum xs) / (W + wSum xs), 1 / Real.sqrt (W + wSum xs)) := by
  induction xs generalizing P W with
  | nil => rw [List.foldl_nil, mSum_nil, wSum_nil, add_zero, add_zero]
  | cons x xs ih =>
    have hx : 0 < x.2 := hpos x List.mem_cons_self
    have hu : 0 < 1 / x.2 ^ 2 := one_div_pos.2 (pow_pos hx 2)
    have hs := combineStep_inv (P := P) (p := x.1 / x.2 ^ 2) hW hu
    rw [← eq_inv_form hx] at hs
    rw [List.foldl_cons, hs, ih _ _ (add_pos hW hu) (fun y hy => hpos y (List.mem_cons_of_mem _ hy)),
      wSum_cons, mSum_cons, add_assoc, add_assoc]

theorem combineMu_eq (xs : List (ℝ × ℝ)) (hne : xs ≠ []) (hpos : ∀ x ∈ xs, 0 < x.2) :
    combineMu xs = some (mSum xs / wSum xs, 1 / Real.sqrt (wSum xs)) := by
  cases xs with
  | nil => exact absurd rfl hne
  | cons x xs =>
    have hx : 0 < x.2 := hpos x List.mem_cons_self
    have hf := foldl_combineStep xs (x.1 / x.2 ^ 2) (1 / x.2 ^ 2) (one_div_pos.2 (pow_pos hx 2))
      (fun y hy => hpos y (List.mem_cons_of_mem _ hy))
    rw [← eq_inv_form hx] at hf
    rw [combineMu, hf, wSum_cons, mSum_cons]

theorem combineMu_mem_Icc {xs : List (ℝ × ℝ)} (hne : xs ≠ []) (hpos : ∀ x ∈ xs, 0 < x.2) {lo hi : ℝ}
    (h : ∀ x ∈ xs, x.1 ∈ Set.Icc lo hi) : ((combineMu xs).getD (0, 0)).1 ∈ Set.Icc lo hi := by
  have hm : mSum xs = (xs.map fun x => x.1 * (1 / x.2 ^ 2)).sum :=
    congrArg List.sum (List.map_congr_left fun x _ => div_eq_mul_one_div _ _)
  rw [combineMu_eq xs hne hpos, Option.getD_some, hm]
  exact weightedMean_mem_Icc (fun x hx => by have := hpos x hx; positivity) (wSum_pos hne hpos) h

/-- consistency of the inverse-variance combination, for any estimators along any filter -/
theorem combineMu_tendsto {ι β : Type*} {F : Filter β} {l : List ι} (hne : l ≠ []) (f : ι → β → ℝ × ℝ)
    {k : ℝ} (hsd : ∀ i ∈ l, ∀ᶠ e in F, 0 < (f i e).2)
    (hlim : ∀ i ∈ l, Tendsto (fun e => (f i e).1) F (𝓝 k)) :
    Tendsto (fun e => ((combineMu (l.map fun i => f i e)).getD (0, 0)).1) F (𝓝 k) := by
  refine Metric.nhds_basis_closedBall.tendsto_right_iff.2 fun ε hε => ?_
  filter_upwards [(eventually_all_finite l.finite_toSet).2 hsd,
    (eventually_all_finite l.finite_toSet).2 fun i hi =>
      (hlim i hi).eventually (Icc_mem_nhds (sub_lt_self k hε) (lt_add_of_pos_right k hε))] with e h1 h2
  rw [Real.closedBall_eq_Icc]
  exact combineMu_mem_Icc (by simpa using hne) (List.forall_mem_map.2 h1) (List.forall_mem_map.2 h2)

/-- the mean of `scale_estimator` in terms of its intermediate quantities -/
noncomputable def coreMu (A B C s12 μ1 : ℝ) : ℝ := (A * (s12 + μ1 * μ1) + B * μ1) / (A * μ1 + B + C)
/-- the variance of `scale_estimator` in terms of its intermediate quantities -/
noncomputable def coreVar (A B C s12 μ1 q : ℝ) : ℝ :=
  (A * (3 * (s12 * μ1) + μ1 * μ1 * μ1) + B * (s12 + μ1 * μ1) + C * q) / (A * μ1 + B + C)
    - coreMu A B C s12 μ1 * coreMu A B C s12 μ1

/-- the constant `K` of the first-order variance `e² K` -/
noncomputable def scK (r μx μy : ℝ) : ℝ := (μy ^ 2 * r ^ 2 + μx ^ 2) / μx ^ 2
noncomputable def scG (e : ℝ) : ℝ := Real.exp (-(1 / 2) * (1 / e ^ 2)) / e
/-- the exponentially small term `C` of `scale_estimator` divided by `B`, at equal errors `e` -/
noncomputable def scC (r μx μy e : ℝ) : ℝ := Real.sqrt (2 / Real.pi) / scK r μx μy * scG e

theorem scK_pos (r μx μy : ℝ) (hx : 0 < μx) : 0 < scK r μx μy := by
  unfold scK; positivity

theorem scC_pos (r μx μy : ℝ) (hx : 0 < μx) {e : ℝ} (he : 0 < e) : 0 < scC r μx μy e := by
  have := scK_pos r μx μy hx
  unfold scC scG; positivity

theorem coreMu_hom {E a b c s μ1 : ℝ} (hE : E ≠ 0) :
    coreMu (E * a) (E * b) (E * c) s μ1 = coreMu a b c s μ1 := by
  unfold coreMu
  rw [mul_assoc, mul_assoc, ← mul_add, mul_assoc, ← mul_add, ← mul_add, mul_div_mul_left _ _ hE]

theorem coreVar_hom {E a b c s μ1 q : ℝ} (hE : E ≠ 0) :
    coreVar (E * a) (E * b) (E * c) s μ1 q = coreVar a b c s μ1 q := by
  unfold coreVar
  rw [coreMu_hom hE,
    show E * a * (3 * (s * μ1) + μ1 * μ1 * μ1) + E * b * (s + μ1 * μ1) + E * c * q
      = E * (a * (3 * (s * μ1) + μ1 * μ1 * μ1) + b * (s + μ1 * μ1) + c * q) by ring,
    show E * a * μ1 + E * b + E * c = E * (a * μ1 + b + c) by ring, mul_div_mul_left _ _ hE]

/-- at equal fractional errors `e` the terms `A`, `B`, `C` of `scale_estimator` are in the ratio
    `μ1 : 1 : scC`, and the mean and the variance only depend on that ratio -/
theorem stationScale_core {r μx μy e : ℝ} (hx : 0 < μx) (hy : 0 < μy) (he : 0 < e) :
    stationScale r μx μy e e =
      (coreMu (μy * r / μx) 1 (scC r μx μy e) (e ^ 2 * scK r μx μy) (μy * r / μx),
       Real.sqrt (coreVar (μy * r / μx) 1 (scC r μx μy e) (e ^ 2 * scK r μx μy) (μy * r / μx) (e ^ 2))) := by
  have hB : μy * (e * μx * (e * μx)) / (μx * μx * μx) ≠ 0 := by positivity
  have hK := scK_pos r μx μy hx
  have hs12 : (e * μy * (e * μy) * r * r + e * μx * (e * μx)) / (μx * μx) = e ^ 2 * scK r μx μy := by
    unfold scK; ring
  have hq : e * μx * (e * μx) / (μx * μx) = e ^ 2 := by field_simp
  have hA : μx * r * (e * μy * (e * μy)) / (μx * μx * μx)
      = μy * (e * μx * (e * μx)) / (μx * μx * μx) * (μy * r / μx) := by field_simp
  have hC : Real.sqrt (2 / Real.pi) *
            (e * μx * (e * μx) * (e * μy) * Real.exp (-(1 / 2) * (μy * μy / (e * μy * (e * μy)))) /
              (μx * μx * μx * (e ^ 2 * scK r μx μy)))
        = μy * (e * μx * (e * μx)) / (μx * μx * μx) * scC r μx μy e := by
    rw [show μy * μy / (e * μy * (e * μy)) = 1 / e ^ 2 by field_simp]
    unfold scC scG
    generalize Real.exp (-(1 / 2) * (1 / e ^ 2)) = X
    generalize scK r μx μy = K at hK
    field_simp
  simp only [stationScale, flt_sqrt, flt_exp, flt_pi, flt_c, flt_half, Nat.cast_ofNat]
  rw [hs12, Real.mul_self_sqrt (by positivity), hq, hC, hA, ← coreMu_hom hB, ← coreVar_hom hB]
  simp only [coreMu, coreVar, mul_one]

theorem coreVar_pos {a b c s q μ : ℝ} (ha : 0 ≤ a) (hb : 0 < b) (hc : 0 ≤ c) (hs : 0 < s) (hq : 0 ≤ q)
    (hμ : 0 ≤ μ) (hsmall : a ^ 2 * s < (a * μ + b) ^ 2) : 0 < coreVar a b c s μ q := by
  have hN : 0 < a * μ + b + c := by positivity
  have h1 : 0 < s * ((a * μ + b) ^ 2 - a ^ 2 * s) := mul_pos hs (sub_pos.2 hsmall)
  have h2 : 0 ≤ c * (μ ^ 2 * (a * μ + b) + s * (3 * a * μ + b) + q * (a * μ + b + c)) := by positivity
  -- `X/N − (Y/N)² = (X N − Y²)/N²` with `N = a μ + b + c`, and `X N − Y²` is the sum of `h1` and `h2`
  rw [coreVar, coreMu, div_mul_div_comm, ← mul_div_mul_right _ _ hN.ne', sub_pos]
  refine div_lt_div_of_pos_right ?_ (mul_pos hN hN)
  linear_combination h1 + h2

theorem scG_tendsto : Tendsto scG (𝓝[>] 0) (𝓝 0) := by
  -- `scG e = t e^{-t²/2}` at `t = 1/e → ∞`
  have h := ((rpow_mul_exp_neg_mul_sq_isLittleO_exp_neg one_half_pos 1).trans_tendsto
    (Real.tendsto_exp_atBot.comp (tendsto_id.const_mul_atTop_of_neg (by norm_num)))).comp
    tendsto_inv_nhdsGT_zero
  exact h.congr fun e => by
    rw [Function.comp_apply, Real.rpow_one, scG, inv_pow, ← one_div (e ^ 2)]; exact (div_eq_inv_mul _ _).symm

theorem tendsto_sq_mul_nhdsGT (K : ℝ) : Tendsto (fun e : ℝ => e ^ 2 * K) (𝓝[>] 0) (𝓝 0) :=
  (Continuous.tendsto' (by fun_prop) 0 0 (by simp)).mono_left nhdsWithin_le_nhds

theorem coreMu_tendsto (a b K μ1 γ : ℝ) (hD : a * μ1 + b ≠ 0) :
    Tendsto (fun e : ℝ => coreMu a b (γ * scG e) (e ^ 2 * K) μ1) (𝓝[>] 0) (𝓝 μ1) := by
  have hnum : Tendsto (fun e : ℝ => a * (e ^ 2 * K + μ1 * μ1) + b * μ1) (𝓝[>] 0) (𝓝 (μ1 * (a * μ1 + b))) :=
    (Continuous.tendsto' (by fun_prop) 0 _ (by ring)).mono_left nhdsWithin_le_nhds
  have hden : Tendsto (fun e : ℝ => a * μ1 + b + γ * scG e) (𝓝[>] 0) (𝓝 (a * μ1 + b + γ * 0)) :=
    tendsto_const_nhds.add (scG_tendsto.const_mul γ)
  rw [mul_zero, add_zero] at hden
  have h := hnum.div hden hD
  rwa [mul_div_assoc, div_self hD, mul_one] at h

end MTfitVerif.Scale
