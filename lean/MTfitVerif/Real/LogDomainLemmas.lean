import MTfitVerif.Model.LogDomain
import MTfitVerif.Real.LogPSem
/-
  Helper lemmas for C04 / C10 / C01: log-sum-exp over `LogP ℝ`.  The shifted sum is expressed
  through the mass `(l.map toProb).sum` of the slice (`shiftedSum_eq`); `lnMargCol` is used through
  `lnMargCol_of_none` / `lnMargCol_of_some`, `lnNormalise` through `lnNormalise_of_negInf` /
  `lnNormalise_of_fin` / `lnNormalise_eq_map_subC`.  What `lnMargCol` denotes,
  `toProb (lnMargCol col dV) = dV * (col.map toProb).sum`, is `C04.lnMargCol_exact`.
  Then `expArgs`, what is handed to `exp` (`mem_expArgs`, `shiftedSum_eq_expArgs`), and `columns` (`columns_getElem?`).
-/
namespace MTfitVerif
namespace LogDomain
open LogP

theorem expArgs_eq_map_fins (m : ℝ) (l : List (LogP ℝ)) :
    expArgs m l = (Evidence.fins l).map (· - m) := by
  induction l with
  | nil => rfl
  | cons x xs ih => cases x <;> simp [expArgs, Evidence.fins, ih]

theorem shiftedSum_eq_sum_fins (m dV : ℝ) (l : List (LogP ℝ)) :
    shiftedSum m dV l = ((Evidence.fins l).map fun x => Real.exp (x - m) * dV).sum := by
  induction l with
  | nil => simp [shiftedSum, Evidence.fins]
  | cons x xs ih => cases x <;> simp [shiftedSum, Evidence.fins, ih]

theorem shiftedSum_eq (m dV : ℝ) (l : List (LogP ℝ)) :
    shiftedSum m dV l = (l.map toProb).sum / Real.exp m * dV := by
  rw [shiftedSum_eq_sum_fins, Evidence.sum_toProb_eq_fins, div_eq_mul_inv, ← List.sum_map_mul_right,
    ← List.sum_map_mul_right]
  simp only [Real.exp_sub, div_eq_mul_inv]

/-- The stability fact: relative to its largest entry the mass of a slice lies in `[1, n]`. -/
theorem sum_div_exp_maxFin {l : List (LogP ℝ)} {m : ℝ} (h : maxFin l = some m) :
    1 ≤ (l.map toProb).sum / Real.exp m ∧ (l.map toProb).sum / Real.exp m ≤ l.length := by
  obtain ⟨hmem, hge⟩ := maxFin_eq_some_iff.1 h
  refine ⟨(one_le_div (Real.exp_pos m)).2 (toProb_le_sum hmem),
    (div_le_iff₀ (Real.exp_pos m)).2 (sum_toProb_le fun x hx => ?_)⟩
  cases x with
  | negInf => exact (Real.exp_pos m).le
  | fin v => exact Real.exp_le_exp.2 (hge v hx)

theorem shiftedSum_pos {l : List (LogP ℝ)} {m dV : ℝ} (hdV : 0 < dV) (h : maxFin l = some m) :
    0 < shiftedSum m dV l := by
  rw [shiftedSum_eq]
  exact mul_pos (one_pos.trans_le (sum_div_exp_maxFin h).1) hdV

theorem shiftedSum_shift (m dV k : ℝ) (l : List (LogP ℝ)) :
    shiftedSum (m + k) dV (l.map (shift · k)) = shiftedSum m dV l := by
  rw [shiftedSum_eq, shiftedSum_eq, sum_toProb_shift, Real.exp_add,
    mul_div_mul_right _ _ (Real.exp_pos k).ne']

theorem shiftedSum_perm {l₁ l₂ : List (LogP ℝ)} (h : l₁.Perm l₂) (m dV : ℝ) :
    shiftedSum m dV l₁ = shiftedSum m dV l₂ := by
  rw [shiftedSum_eq, shiftedSum_eq, (h.map toProb).sum_eq]

theorem lnMargCol_of_none {col : List (LogP ℝ)} (dV : ℝ) (h : maxFin col = none) :
    lnMargCol col dV = negInf := by
  unfold lnMargCol; rw [h]

theorem lnMargCol_of_some {col : List (LogP ℝ)} {m : ℝ} (dV : ℝ) (h : maxFin col = some m) :
    lnMargCol col dV = fin (Real.log (shiftedSum m dV col) + m) := by
  unfold lnMargCol; rw [h]; rfl

theorem lnNormalise_of_negInf {xs : List (LogP ℝ)} {dV : ℝ} (h : lnMargCol xs dV = negInf) :
    lnNormalise xs dV = xs := by
  unfold lnNormalise; rw [h]

theorem lnNormalise_of_fin {xs : List (LogP ℝ)} {dV n : ℝ} (h : lnMargCol xs dV = fin n) :
    lnNormalise xs dV = xs.map (subC · n) := by
  unfold lnNormalise; rw [h]

theorem lnNormalise_eq_map_subC (xs : List (LogP ℝ)) (dV : ℝ) :
    ∃ n, lnNormalise xs dV = xs.map (subC · n) := by
  cases h : lnMargCol xs dV with
  | negInf => exact ⟨0, by rw [lnNormalise_of_negInf h]; simp⟩
  | fin n => exact ⟨n, lnNormalise_of_fin h⟩

theorem lnMargCol_perm {l₁ l₂ : List (LogP ℝ)} (h : l₁.Perm l₂) (dV : ℝ) :
    lnMargCol l₁ dV = lnMargCol l₂ dV := by
  unfold lnMargCol
  rw [maxFin_perm h]
  cases maxFin l₂ with
  | none => rfl
  | some m => simp only [shiftedSum_perm h]

theorem expArgs_shift (m k : ℝ) (l : List (LogP ℝ)) :
    expArgs (m + k) (l.map (shift · k)) = expArgs m l := by
  induction l with
  | nil => simp [expArgs]
  | cons x xs ih =>
    cases x with
    | negInf => simpa [expArgs] using ih
    | fin v => simp only [List.map_cons, shift_fin, expArgs, ih]; congr 1; ring

theorem mem_expArgs {m a : ℝ} {l : List (LogP ℝ)} :
    a ∈ expArgs m l ↔ ∃ v, fin v ∈ l ∧ a = v - m := by
  simp only [expArgs_eq_map_fins, List.mem_map, Evidence.mem_fins, eq_comm]

/-- the sum the code hands to `log` is exactly `Σ exp(args) * dV` over `expArgs` -/
theorem shiftedSum_eq_expArgs (m dV : ℝ) (l : List (LogP ℝ)) :
    shiftedSum m dV l = ((expArgs m l).map (fun a => Real.exp a * dV)).sum := by
  rw [shiftedSum_eq_sum_fins, expArgs_eq_map_fins, List.map_map]; rfl

theorem columns_length {β} (n : Nat) (rows : List (List β)) : (columns n rows).length = n := by
  induction n generalizing rows with
  | zero => rfl
  | succ n ih => simp [columns, ih]

theorem heads_eq_filterMap {β} (rows : List (List β)) :
    heads rows = rows.filterMap (fun r => r[0]?) := by
  induction rows with
  | nil => rfl
  | cons r rs ih =>
    cases r with
    | nil => rw [List.filterMap_cons_none rfl]; exact ih
    | cons x xs =>
      rw [List.filterMap_cons_some (f := fun r : List β => r[0]?) (a := x :: xs) (b := x) rfl]
      exact congrArg _ ih

theorem filterMap_tails {β} (rows : List (List β)) (k : Nat) :
    (tails rows).filterMap (fun r => r[k]?) = rows.filterMap (fun r => r[k + 1]?) := by
  induction rows with
  | nil => rfl
  | cons r rs ih =>
    cases r with
    | nil => rw [List.filterMap_cons_none rfl]; exact ih
    | cons x xs =>
      show List.filterMap (fun r => r[k]?) (xs :: tails rs) = _
      rw [List.filterMap_cons, List.filterMap_cons, ih]; rfl

theorem columns_getElem? {β} (n : Nat) (rows : List (List β)) (j : Nat) (hj : j < n) :
    (columns n rows)[j]? = some (rows.filterMap (fun r => r[j]?)) := by
  induction n generalizing rows j with
  | zero => omega
  | succ n ih =>
    cases j with
    | zero => rw [columns, List.getElem?_cons_zero, heads_eq_filterMap]
    | succ k => rw [columns, List.getElem?_cons_succ, ih _ k (by omega), filterMap_tails]

end LogDomain
end MTfitVerif
