import MTfitVerif.Model.Matrices
import Batteries.Data.String.Lemmas
import Mathlib.Data.List.Nodup
/-
  The list / ordering / string functions of `Model/Matrices.lean` (C11).
  Pure `List` / `Nat` / `String` facts; nothing here depends on the scalar type.
-/
namespace MTfitVerif
namespace Matrices

theorem mem_insertSorted {x y : Nat} {l : List Nat} :
    y ∈ insertSorted x l ↔ y = x ∨ y ∈ l := by
  fun_induction insertSorted x l with
  | case1 => simp
  | case2 z zs _ => simp
  | case3 zs _ => simp
  | case4 z zs _ _ ih => rw [List.mem_cons, ih, List.mem_cons]; exact or_left_comm

theorem pairwise_insertSorted {x : Nat} {l : List Nat} (h : l.Pairwise (· < ·)) :
    (insertSorted x l).Pairwise (· < ·) := by
  fun_induction insertSorted x l with
  | case1 => simp
  | case2 z zs hxz =>
    refine List.pairwise_cons.mpr ⟨fun a ha => ?_, h⟩
    rcases List.mem_cons.mp ha with rfl | ha
    · exact hxz
    · exact Nat.lt_trans hxz (List.rel_of_pairwise_cons h ha)
  | case3 zs _ => exact h
  | case4 z zs h1 h2 ih =>
    have hz := List.pairwise_cons.mp h
    refine List.pairwise_cons.mpr ⟨fun a ha => ?_, ih hz.2⟩
    rcases mem_insertSorted.mp ha with rfl | ha
    · omega
    · exact hz.1 a ha

theorem insertKey_perm {α : Type} (x : DataType α) (l : List (DataType α)) :
    (insertKey x l).Perm (x :: l) := by
  fun_induction insertKey x l with
  | case1 => exact List.Perm.refl _
  | case2 y ys _ => exact List.Perm.refl _
  | case3 y ys _ ih => exact (ih.cons y).trans (List.Perm.swap x y ys)

theorem string_not_lt_trans {a b c : String} (h₁ : ¬ b < a) (h₂ : ¬ c < b) : ¬ c < a :=
  String.not_lt.mpr (String.le_trans (String.not_lt.mp h₁) (String.not_lt.mp h₂))

theorem pairwise_insertKey {α : Type} (x : DataType α) {l : List (DataType α)}
    (h : l.Pairwise (fun a b => ¬ b.key < a.key)) :
    (insertKey x l).Pairwise (fun a b => ¬ b.key < a.key) := by
  fun_induction insertKey x l with
  | case1 => simp
  | case2 y ys hxy =>
    refine List.pairwise_cons.mpr ⟨fun a ha => ?_, h⟩
    rcases List.mem_cons.mp ha with rfl | ha
    · exact String.lt_asymm hxy
    · exact string_not_lt_trans (String.lt_asymm hxy) (List.rel_of_pairwise_cons h ha)
  | case3 y ys hxy ih =>
    have hy := List.pairwise_cons.mp h
    refine List.pairwise_cons.mpr ⟨fun a ha => ?_, ih hy.2⟩
    rcases List.mem_cons.mp ((insertKey_perm x ys).mem_iff.mp ha) with rfl | ha
    · exact hxy
    · exact hy.1 a ha

theorem findRow_some {α : Type} {rows : List (Row α)} {n : Nat} {r : Row α}
    (h : findRow rows n = some r) : r ∈ rows ∧ r.name = n :=
  ⟨List.mem_of_find?_eq_some h, by simpa using List.find?_some h⟩

theorem exists_findRow_eq_some {α : Type} {rows : List (Row α)} {n : Nat}
    (h : ∃ r ∈ rows, r.name = n) : ∃ r, findRow rows n = some r :=
  let ⟨r, hr, hn⟩ := h
  Option.isSome_iff_exists.mp (List.find?_isSome.2 ⟨r, hr, beq_iff_eq.2 hn⟩)

theorem findRow_eq_some_iff {α : Type} {rows : List (Row α)} (hnd : (rows.map (·.name)).Nodup)
    {n : Nat} {r : Row α} : findRow rows n = some r ↔ r ∈ rows ∧ r.name = n := by
  refine ⟨findRow_some, ?_⟩
  rintro ⟨hr, rfl⟩
  obtain ⟨u, hu⟩ := exists_findRow_eq_some ⟨r, hr, rfl⟩
  rw [hu, List.inj_on_of_nodup_map hnd (findRow_some hu).1 hr (findRow_some hu).2]

theorem findRow_perm {α : Type} {rows rows' : List (Row α)} (hp : rows.Perm rows')
    (hnd : (rows.map (·.name)).Nodup) (n : Nat) : findRow rows' n = findRow rows n :=
  Option.ext fun r => by
    rw [findRow_eq_some_iff ((hp.map _).nodup_iff.mp hnd), findRow_eq_some_iff hnd, hp.mem_iff]

/-! ### `String.splitOn` on lists of characters, and the key predicates -/

section Strings
open String

/-- the search of `String.splitOnAux` on lists of characters: `bs` is the piece since the last
    separator, `ms` the part of the separator matched so far, `rest`/`sepRest` what is left of the
    string and of the separator, `r` the finished pieces.  After a failed partial match the search
    resumes one character after its start, so the recursion is not structural; the step bound
    makes it so, and the kernel can run it (it cannot run `splitOnAux`'s well-founded recursion). -/
def splitL (sep : List Char) :
    Nat → (bs ms rest sepRest : List Char) → List (List Char) → Option (List (List Char))
  | 0, _, _, _, _, _ => none
  | _ + 1, bs, ms, [], _, r => some (((bs ++ ms) :: r).reverse)
  | _ + 1, _, _, _ :: _, [], _ => none
  | n + 1, bs, ms, c :: rest, d :: sepRest, r =>
    if c == d then
      match sepRest with
      | [] => splitL sep n [] [] rest sep (bs :: r)
      | _ :: _ => splitL sep n bs (ms ++ [c]) rest sepRest r
    else match ms ++ c :: rest with
      | [] => none
      | m0 :: tl => splitL sep n (bs ++ [m0]) [] tl sep r

/-- `splitL` follows `String.splitOnAux` step by step: the string is `p0 ++ bs ++ ms ++ rest`, the
    separator `ms ++ sepRest`, and the three positions are the lengths of `p0`, `p0 ++ bs ++ ms`
    and `ms` -/
theorem splitOnAux_of_splitL (sep : List Char) :
    ∀ (n : Nat) (p0 bs ms rest sepRest : List Char) (r l : List (List Char)), sep = ms ++ sepRest →
      splitL sep n bs ms rest sepRest r = some l →
      splitOnAux (ofList (p0 ++ bs ++ ms ++ rest)) (ofList sep) ⟨utf8Len p0⟩
        ⟨utf8Len (p0 ++ bs ++ ms)⟩ ⟨utf8Len ms⟩ (r.map ofList) = l.map ofList
  | 0, _, _, _, _, _, _, _, _, h => by cases h
  | n + 1, p0, bs, ms, [], sepRest, r, l, hsep, h => by
    rw [splitL, Option.some.injEq] at h
    rw [splitOnAux, if_pos ((atEnd_of_valid _ _).2 rfl), ← h]
    have := extract_of_valid p0 (bs ++ ms) []
    simp only [List.append_nil, ← List.append_assoc, ← utf8Len_append] at this ⊢
    rw [this, List.map_reverse, List.map_cons]
  | n + 1, p0, bs, ms, c :: rest, [], r, l, hsep, h => by cases h
  | n + 1, p0, bs, ms, c :: rest, d :: sepRest, r, l, hsep, h => by
    subst hsep
    rw [splitOnAux, if_neg fun hh => List.cons_ne_nil _ _ ((atEnd_of_valid (p0 ++ bs ++ ms) _).1 hh),
      get_of_valid (p0 ++ bs ++ ms), get_of_valid ms, List.headD_cons, List.headD_cons,
      next_of_valid (p0 ++ bs ++ ms) c rest, next_of_valid ms d sepRest]
    simp only [splitL] at h
    split at h
    · rename_i hcd
      obtain rfl : c = d := eq_of_beq hcd
      rw [if_pos hcd]
      have hunoff : (⟨utf8Len (p0 ++ bs ++ ms) + c.utf8Size⟩ : Pos.Raw).unoffsetBy
          ⟨utf8Len ms + c.utf8Size⟩ = ⟨utf8Len p0 + utf8Len bs⟩ :=
        Pos.Raw.ext (by simp only [Pos.Raw.unoffsetBy, utf8Len_append]; omega)
      have hext := extract_of_valid p0 bs (ms ++ c :: rest)
      have hjend := atEnd_of_valid (ms ++ [c]) sepRest
      simp only [List.append_assoc, List.cons_append, List.nil_append, utf8Len_append, utf8Len_cons,
        utf8Len_nil, Nat.zero_add] at hext hjend hunoff ⊢
      cases sepRest with
      | nil =>
        have := splitOnAux_of_splitL _ n (p0 ++ bs ++ ms ++ [c]) [] [] rest (ms ++ [c]) (bs :: r) l
          (List.nil_append _).symm h
        rw [if_pos (hjend.2 rfl), hunoff, hext]
        simp only [List.append_assoc, List.cons_append, List.nil_append, List.append_nil, List.map_cons,
          utf8Len_append, utf8Len_cons, utf8Len_nil, Nat.zero_add, Nat.add_assoc] at this ⊢
        exact this
      | cons e sepRest =>
        have := splitOnAux_of_splitL _ n p0 bs (ms ++ [c]) rest (e :: sepRest) r l (by simp) h
        rw [if_neg (fun hh => List.cons_ne_nil _ _ (hjend.1 hh))]
        simp only [List.append_assoc, List.cons_append, List.nil_append,
          utf8Len_append, utf8Len_cons, utf8Len_nil, Nat.zero_add, Nat.add_assoc] at this ⊢
        exact this
    · rename_i hcd
      have hunoff : (⟨utf8Len (p0 ++ bs ++ ms)⟩ : Pos.Raw).unoffsetBy ⟨utf8Len ms⟩
          = ⟨utf8Len (p0 ++ bs)⟩ :=
        Pos.Raw.ext (by simp only [Pos.Raw.unoffsetBy, utf8Len_append]; omega)
      rw [if_neg hcd, hunoff]
      cases hm : ms ++ c :: rest with
      | nil => exact absurd hm (by simp)
      | cons m0 tl =>
        rw [hm] at h
        have := splitOnAux_of_splitL _ n p0 (bs ++ [m0]) [] tl (ms ++ d :: sepRest) r l
          (List.nil_append _).symm h
        rw [List.append_assoc (p0 ++ bs), hm, next_of_valid (p0 ++ bs) m0 tl]
        simp only [List.append_assoc, List.cons_append, List.nil_append, List.append_nil,
          utf8Len_append, utf8Len_cons, utf8Len_nil, Nat.zero_add, Nat.add_assoc] at this ⊢
        exact this

theorem splitOn_ofList (n : Nat) {cs sep : List Char} {l : List (List Char)}
    (h : splitL sep n [] [] cs sep [] = some l) (hsep : sep ≠ [] := by exact List.cons_ne_nil _ _) :
    (ofList cs).splitOn (ofList sep) = l.map ofList := by
  have := splitOnAux_of_splitL sep n [] [] [] cs sep [] l rfl h
  rw [splitOn, show (ofList sep == "") = false by simp [hsep]]
  exact this

theorem toLower_ofList (cs : List Char) : (ofList cs).toLower = ofList (cs.map Char.toLower) := by
  rw [← String.toList_inj, toLower, String.toList_map, String.toList_ofList, String.toList_ofList]

theorem containsSub_toLower_ofList (n : Nat) {cs sub : List Char} (b : Bool)
    (h : (splitL sub n [] [] (cs.map Char.toLower) sub []).map (fun l => decide (l.length > 1)) = some b)
    (hsub : sub ≠ [] := by exact List.cons_ne_nil _ _) : containsSub (ofList cs).toLower (ofList sub) = b := by
  obtain ⟨l, hl, rfl⟩ := Option.map_eq_some_iff.1 h
  rw [containsSub, toLower_ofList, splitOn_ofList n hl hsub, List.length_map]

theorem polarityMode_ofList (n : Nat) {cs r : List Char} {rest : List (List Char)}
    (h : splitL ['p', 'o', 'l', 'a', 'r', 'i', 't', 'y'] n [] [] (cs.map Char.toLower)
      ['p', 'o', 'l', 'a', 'r', 'i', 't', 'y'] [] = some (r :: rest)) :
    polarityMode (ofList cs) = ofList r := by
  rw [polarityMode, toLower_ofList]
  exact congrArg (·.headD "") (splitOn_ofList n h)

/-- `rstripChars` on lists of characters -/
def rstripL (cs xs : List Char) : List Char := (cs.reverse.dropWhile (xs.contains ·)).reverse

theorem rstripChars_ofList (cs xs : List Char) : rstripChars (ofList cs) xs = ofList (rstripL cs xs) := by
  rw [rstripChars, String.toList_ofList, rstripL]

theorem ratioPhases_ofList (n : Nat) {k : String} {cs a b : List Char}
    (hk : k.replace "_" "" = ofList cs)
    (h : (splitL ['a', 'm', 'p', 'l', 'i', 't', 'u', 'd', 'e', 'r', 'a', 't', 'i', 'o'] n [] []
        (cs.map Char.toLower) ['a', 'm', 'p', 'l', 'i', 't', 'u', 'd', 'e', 'r', 'a', 't', 'i', 'o'] []).bind
      (fun l => splitL ['/'] n [] [] (rstripL (rstripL (l.headD []) ['r', 'm', 's']) ['q']) ['/'] [])
        = some [a, b]) :
    ratioPhases k = (ofList a, ofList b) := by
  obtain ⟨l, h1, h2⟩ := Option.bind_eq_some_iff.1 h
  have e1 : (k.replace "_" "").toLower.splitOn "amplituderatio" = l.map ofList := by
    rw [hk, toLower_ofList]; exact splitOn_ofList n h1
  rw [ratioPhases, e1]
  show (match (rstripChars (rstripChars ((l.map ofList).headD "") ['r', 'm', 's']) ['q']).splitOn "/" with
    | [a, b] => (a, b) | _ => ("", "")) = _
  rw [show (l.map ofList).headD "" = ofList (l.headD []) by cases l <;> rfl, rstripChars_ofList,
    rstripChars_ofList]
  exact congrArg (fun l => match l with | [a, b] => (a, b) | _ => ("", "")) (splitOn_ofList n h2)

end Strings

end Matrices
end MTfitVerif
