import MTfitVerif.Model.PyxSpec
/-
  Loop lemmas for the translated array kernels of C20: `for … in [a:n]` loops of `Id.run do` blocks as
  list folds, folds whose state is a tuple read through a projection (`foldl_sim`, `foldl_proj`, `ksum1`–`ksum4`), folds that
  write array cells, the station loop with its early `return` as `PyxSpec.accumulate`, and the loop nests of the kernels around the
  station loops (`fill_loop`, `marg_loop`); at the end, in `PyxBinning`, two facts about lists read by index over a range.
  Core/Std only; everything is polymorphic in the scalar type.
-/
namespace MTfitVerif
namespace PyxLoop
open PyxSpec

section plain
variable {α : Type}

/-! ### `for` loops over ranges as folds -/

theorem forIn_range_eq_list' {m : Type → Type} [Monad m] {β : Type} (a n : Nat) (init : β)
    (f : Nat → β → m (ForInStep β)) :
    forIn [a:n] init f = forIn (List.range' a (n - a)) init f := by
  rw [Std.Legacy.Range.forIn_eq_forIn_range', Std.Legacy.Range.size, Nat.add_sub_cancel, Nat.div_one]

theorem forIn_range_eq_list {m : Type → Type} [Monad m] {β : Type} (n : Nat) (init : β)
    (f : Nat → β → m (ForInStep β)) :
    forIn [0:n] init f = forIn (List.range' 0 n) init f :=
  forIn_range_eq_list' 0 n init f

theorem forIn_range_yield {β : Type} (n : Nat) (init : β) (g : Nat → β → β) :
    forIn (m := Id) [0:n] init (fun k s => pure (ForInStep.yield (g k s)))
      = pure ((List.range n).foldl (fun s k => g k s) init) := by
  rw [forIn_range_eq_list, List.forIn_pure_yield_eq_foldl, List.range_eq_range']

theorem ite_pure_yield {β : Type} (c : Prop) [Decidable c] (a b : β) :
    (if c then (pure (ForInStep.yield a) : Id (ForInStep β)) else pure (ForInStep.yield b))
      = pure (ForInStep.yield (if c then a else b)) := by
  split <;> rfl

/-! ### arrays -/

theorem setIfInBounds_getD_self (P : Array α) (i : Nat) (d : α) : P.setIfInBounds i (P.getD i d) = P := by
  unfold Array.setIfInBounds Array.getD
  split
  · exact Array.set_getElem_self _
  · rfl

theorem getD_setIfInBounds_self {P : Array α} {i : Nat} {a d : α} (h : i < P.size) :
    (P.setIfInBounds i a).getD i d = a := by
  rw [Array.getD_eq_getD_getElem?, Array.getElem?_setIfInBounds_self, if_pos h]
  rfl

theorem getD_setIfInBounds_ne {P : Array α} {i j : Nat} {a d : α} (h : i ≠ j) :
    (P.setIfInBounds i a).getD j d = P.getD j d := by
  rw [Array.getD_eq_getD_getElem?, Array.getD_eq_getD_getElem?, Array.getElem?_setIfInBounds_ne h]

theorem set_set_of_getD (P : Array α) (u : Nat) (z d : α) (F : α → α) :
    (P.setIfInBounds u z).setIfInBounds u (F ((P.setIfInBounds u z).getD u d)) = P.setIfInBounds u (F z) := by
  by_cases h : u < P.size
  · rw [getD_setIfInBounds_self h, Array.setIfInBounds_setIfInBounds]
  · simp only [Array.setIfInBounds_eq_of_size_le (Nat.le_of_not_lt h)]

/-! ### simulation of a loop or a fold by a fold on a projection of its state -/

theorem forIn_sim {σ ρ ι : Type} (l : List ι) (f : ι → σ → Id (ForInStep σ)) (p : σ → ρ) (g : ρ → ι → ρ)
    (Inv : σ → Prop)
    (h : ∀ s k, k ∈ l → Inv s → ∃ s', f k s = pure (ForInStep.yield s') ∧ p s' = g (p s) k ∧ Inv s')
    (s0 : σ) (h0 : Inv s0) :
    p (forIn l s0 f).run = l.foldl g (p s0) ∧ Inv (forIn l s0 f).run := by
  induction l generalizing s0 with
  | nil => exact ⟨rfl, h0⟩
  | cons k l ih =>
    obtain ⟨s', h1, h2, h3⟩ := h s0 k List.mem_cons_self h0
    rw [List.forIn_cons, h1]
    simp only [pure_bind, List.foldl_cons]
    rw [← h2]
    exact ih (fun s k hk => h s k (List.mem_cons_of_mem _ hk)) s' h3

theorem foldl_sim {σ ρ ι : Type} (l : List ι) (G : σ → ι → σ) (p : σ → ρ) (g : ρ → ι → ρ) (Inv : σ → Prop)
    (h : ∀ s k, k ∈ l → Inv s → p (G s k) = g (p s) k ∧ Inv (G s k)) (s0 : σ) (h0 : Inv s0) :
    p (l.foldl G s0) = l.foldl g (p s0) ∧ Inv (l.foldl G s0) := by
  have := forIn_sim l (fun k s => pure (ForInStep.yield (G s k))) p g Inv (fun s k hk hs => ⟨_, rfl, h s k hk hs⟩) s0 h0
  rwa [List.forIn_pure_yield_eq_foldl] at this

theorem foldl_proj {σ ρ ι : Type} (l : List ι) (G : σ → ι → σ) (p : σ → ρ) (g : ρ → ι → ρ)
    (h : ∀ s k, p (G s k) = g (p s) k) (s0 : σ) : p (l.foldl G s0) = l.foldl g (p s0) :=
  (List.foldl_hom p fun s k => (h s k).symm).symm

theorem foldl_sim_snd {ρ τ ι : Type} (l : List ι) {G : τ × ρ → ι → τ × ρ} (g : ρ → ι → ρ) (Inv : τ × ρ → Prop)
    (h : ∀ s k, k ∈ l → Inv s → (G s k).2 = g s.2 k ∧ Inv (G s k)) {s0 : τ × ρ} (h0 : Inv s0) :
    (l.foldl G s0).2 = l.foldl g s0.2 :=
  (foldl_sim l G (fun s => s.2) g Inv h s0 h0).1

theorem foldl_prod3 {β γ δ ι : Type} (l : List ι) (f : β → ι → β) (g : γ → ι → γ) (h : δ → ι → δ) (a : β) (b : γ)
    (d : δ) :
    l.foldl (fun s k => (f s.1 k, g s.2.1 k, h s.2.2 k)) (a, b, d) = (l.foldl f a, l.foldl g b, l.foldl h d) := by
  induction l generalizing a b d with
  | nil => rfl
  | cons k l ih => simp only [List.foldl_cons]; exact ih _ _ _

theorem foldl_keep {ρ ι : Type} (l : List ι) (x : ρ) : l.foldl (fun y _ => y) x = x := by
  induction l with
  | nil => rfl
  | cons k l ih => exact ih

/-! ### the inner `k` loops: several running sums and the loop index in one state -/

theorem ksum1 [Add α] {ι : Type} (e1 : ι → α) (x1 : α) (k0 : ι) (l : List ι) :
    l.foldl (fun (s : α × ι) k => (s.1 + e1 k, k)) (x1, k0)
      = (l.foldl (fun x k => x + e1 k) x1, l.foldl (fun _ k => k) k0) := by
  induction l generalizing x1 k0 with
  | nil => rfl
  | cons k l ih => exact ih _ _

theorem ksum2 [Add α] {ι : Type} (e1 e2 : ι → α) (x1 x2 : α) (k0 : ι) (l : List ι) :
    l.foldl (fun (s : α × α × ι) k => (s.1 + e1 k, s.2.1 + e2 k, k)) (x1, x2, k0)
      = (l.foldl (fun x k => x + e1 k) x1, l.foldl (fun x k => x + e2 k) x2, l.foldl (fun _ k => k) k0) := by
  induction l generalizing x1 x2 k0 with
  | nil => rfl
  | cons k l ih => exact ih _ _ _

theorem ksum3 [Add α] {ι : Type} (e1 e2 e3 : ι → α) (x1 x2 x3 : α) (k0 : ι) (l : List ι) :
    l.foldl (fun (s : α × α × α × ι) k => (s.1 + e1 k, s.2.1 + e2 k, s.2.2.1 + e3 k, k)) (x1, x2, x3, k0)
      = (l.foldl (fun x k => x + e1 k) x1, l.foldl (fun x k => x + e2 k) x2, l.foldl (fun x k => x + e3 k) x3,
          l.foldl (fun _ k => k) k0) := by
  induction l generalizing x1 x2 x3 k0 with
  | nil => rfl
  | cons k l ih => exact ih _ _ _ _

theorem ksum4 [Add α] {ι : Type} (e1 e2 e3 e4 : ι → α) (x1 x2 x3 x4 : α) (k0 : ι) (l : List ι) :
    l.foldl (fun (s : α × α × α × α × ι) k => (s.1 + e1 k, s.2.1 + e2 k, s.2.2.1 + e3 k, s.2.2.2.1 + e4 k, k))
        (x1, x2, x3, x4, k0)
      = (l.foldl (fun x k => x + e1 k) x1, l.foldl (fun x k => x + e2 k) x2, l.foldl (fun x k => x + e3 k) x3,
          l.foldl (fun x k => x + e4 k) x4, l.foldl (fun _ k => k) k0) := by
  induction l generalizing x1 x2 x3 x4 k0 with
  | nil => rfl
  | cons k l ih => exact ih _ _ _ _ _

/-! ### folds that write array cells -/

/-- the value written may depend on the array, so plain writes and read-modify-write steps are both instances -/
theorem size_foldl_write {ι : Type} (l : List ι) (idx : ι → Nat) (h : ι → Array α → α) (P : Array α) :
    (l.foldl (fun P y => P.setIfInBounds (idx y) (h y P)) P).size = P.size :=
  List.foldlRecOn (motive := fun Q : Array α => Q.size = P.size) l _ rfl
    fun _ hQ _ _ => Array.size_setIfInBounds.trans hQ

theorem getD_foldl_write_of_not_mem {ι : Type} (l : List ι) (idx : ι → Nat) (h : ι → Array α → α) (P : Array α) (d : α)
    (j : Nat) (hj : ∀ y ∈ l, idx y ≠ j) :
    (l.foldl (fun P y => P.setIfInBounds (idx y) (h y P)) P).getD j d = P.getD j d :=
  List.foldlRecOn (motive := fun Q : Array α => Q.getD j d = P.getD j d) l _ rfl
    fun _ hQ y hy => (getD_setIfInBounds_ne (hj y hy)).trans hQ

theorem getD_foldl_set {ι : Type} (l : List ι) (idx : ι → Nat) (val : ι → α) (P : Array α) (d : α) (x : ι)
    (hx : x ∈ l) (hinj : ∀ y ∈ l, idx y = idx x → val y = val x) (hb : idx x < P.size) :
    (l.foldl (fun P y => P.setIfInBounds (idx y) (val y)) P).getD (idx x) d = val x := by
  -- invariant of the fold: `x` is still to come, or the cell holds `val x` already
  suffices H : ∀ P : Array α, idx x < P.size → (x ∈ l ∨ P.getD (idx x) d = val x) →
      (l.foldl (fun P y => P.setIfInBounds (idx y) (val y)) P).getD (idx x) d = val x from H P hb (Or.inl hx)
  clear hx hb P
  induction l with
  | nil => exact fun P _ h => h.resolve_left List.not_mem_nil
  | cons y l ih =>
    intro P hb h
    refine ih (fun z hz => hinj z (List.mem_cons_of_mem _ hz)) (P.setIfInBounds (idx y) (val y))
      (by rw [Array.size_setIfInBounds]; exact hb) ?_
    by_cases hy : idx y = idx x
    · exact Or.inr (by rw [hy, getD_setIfInBounds_self hb]; exact hinj y List.mem_cons_self hy)
    · exact h.imp (fun h => (List.mem_cons.mp h).resolve_left fun e => hy (e ▸ rfl))
        (fun h => by rw [getD_setIfInBounds_ne hy]; exact h)

theorem getD_foldl_set_self (X : Nat → α) (vmax : Nat) (L : Array α) (d : α) (hL : vmax ≤ L.size) {v : Nat}
    (hv : v < vmax) :
    ((List.range vmax).foldl (fun (L : Array α) v => L.setIfInBounds v (X v)) L).getD v d = X v :=
  getD_foldl_set (List.range vmax) (fun v => v) X L d v (List.mem_range.mpr hv) (fun _ _ h => h ▸ rfl)
    (Nat.lt_of_lt_of_le hv hL)

/-! ### the un-marginalised kernels: every cell `v * wmax + w` of `ln_P` written once -/

/-- the array after the un-marginalised kernel: cell `v * wmax + w` is overwritten with `F v w`, for `w` (outer loop) and `v`
    (inner loop) in range, in the order of the code -/
def fillCells (F : Nat → Nat → α) (vmax wmax : Nat) (P : Array α) : Array α :=
  (List.range wmax).foldl
    (fun P w => (List.range vmax).foldl (fun P v => P.setIfInBounds (v * wmax + w) (F v w)) P) P

theorem fillCells_eq_flat (F : Nat → Nat → α) (vmax wmax : Nat) (P : Array α) :
    fillCells F vmax wmax P
      = ((List.range wmax).flatMap (fun w => (List.range vmax).map (fun v => (v, w)))).foldl
          (fun P y => P.setIfInBounds (y.1 * wmax + y.2) (F y.1 y.2)) P := by
  simp only [fillCells, List.foldl_flatMap, List.foldl_map]

theorem size_fillCells (F : Nat → Nat → α) (vmax wmax : Nat) (P : Array α) :
    (fillCells F vmax wmax P).size = P.size := by
  rw [fillCells_eq_flat]
  exact size_foldl_write _ (fun y : Nat × Nat => y.1 * wmax + y.2) (fun y _ => F y.1 y.2) P

theorem cell_lt {v w vmax wmax : Nat} (hv : v < vmax) (hw : w < wmax) : v * wmax + w < vmax * wmax :=
  calc v * wmax + w < v * wmax + wmax := Nat.add_lt_add_left hw _
    _ = (v + 1) * wmax := (Nat.succ_mul v wmax).symm
    _ ≤ vmax * wmax := Nat.mul_le_mul_right _ hv

theorem cell_inj {v w v' w' wmax : Nat} (hw : w < wmax) (hw' : w' < wmax)
    (h : v' * wmax + w' = v * wmax + w) : v' = v ∧ w' = w := by
  have h1 : w' = w := by
    have := congrArg (· % wmax) h
    simpa [Nat.mul_add_mod_of_lt, Nat.mod_eq_of_lt hw, Nat.mod_eq_of_lt hw', Nat.add_comm, Nat.mul_comm] using this
  subst h1
  have h2 : v' * wmax = v * wmax := Nat.add_right_cancel h
  exact ⟨Nat.eq_of_mul_eq_mul_right (Nat.lt_of_le_of_lt (Nat.zero_le _) hw) h2, rfl⟩

theorem mem_cells {vmax wmax : Nat} {y : Nat × Nat} :
    y ∈ (List.range wmax).flatMap (fun w => (List.range vmax).map (fun v => (v, w))) ↔ y.1 < vmax ∧ y.2 < wmax := by
  simp only [List.mem_flatMap, List.mem_map, List.mem_range]
  exact ⟨fun ⟨_, hw, _, hv, e⟩ => e ▸ ⟨hv, hw⟩, fun ⟨hv, hw⟩ => ⟨y.2, hw, y.1, hv, rfl⟩⟩

theorem getD_foldl_set_cell (l : List (Nat × Nat)) (F : Nat → Nat → α) (wmax : Nat) (P : Array α) (d : α) {v w : Nat}
    (hx : (v, w) ∈ l) (hl : ∀ y ∈ l, y.2 < wmax) (hb : v * wmax + w < P.size) :
    (l.foldl (fun P y => P.setIfInBounds (y.1 * wmax + y.2) (F y.1 y.2)) P).getD (v * wmax + w) d = F v w :=
  getD_foldl_set l (fun y => y.1 * wmax + y.2) (fun y => F y.1 y.2) P d (v, w) hx
    (fun y hy h => by obtain ⟨h1, h2⟩ := cell_inj (hl _ hx) (hl y hy) h; rw [h1, h2]) hb

theorem getD_fillCells (F : Nat → Nat → α) (vmax wmax : Nat) (P : Array α) (d : α) (hsize : vmax * wmax ≤ P.size)
    {v w : Nat} (hv : v < vmax) (hw : w < wmax) :
    (fillCells F vmax wmax P).getD (v * wmax + w) d = F v w := by
  rw [fillCells_eq_flat]
  exact getD_foldl_set_cell _ F wmax P d (mem_cells.mpr ⟨hv, hw⟩) (fun _ hy => (mem_cells.mp hy).2)
    (Nat.lt_of_lt_of_le (cell_lt hv hw) hsize)

/-- the cells from `vmax * wmax` on are not touched -/
theorem getD_fillCells_of_le (F : Nat → Nat → α) (vmax wmax : Nat) (P : Array α) (d : α) {j : Nat}
    (hj : vmax * wmax ≤ j) : (fillCells F vmax wmax P).getD j d = P.getD j d := by
  rw [fillCells_eq_flat]
  exact getD_foldl_write_of_not_mem _ (fun y : Nat × Nat => y.1 * wmax + y.2) (fun y _ => F y.1 y.2) P d j
    fun _ hy => Nat.ne_of_lt (Nat.lt_of_lt_of_le (cell_lt (mem_cells.mp hy).1 (mem_cells.mp hy).2) hj)

/-- the un-marginalised kernels on whatever loop states `σ` (outer, over `w`) and `σ'` (inner, over `v`) they carry: the inner
    pass writes `F v w` to cell `v * wmax + w` of `ln_P` (projections `qP`, `pP`), nothing else touches `ln_P` or the
    location-sample buffer (projection `qL`).  In use the hypotheses are `by intros; rfl` blocks: they run after the goal
    has fixed `G`, in the order written, and `hG` fixes `G'` and `i` by unification. -/
theorem fill_loop {σ σ' : Type} (F : Nat → Nat → α) (vmax wmax : Nat)
    (qP qL : σ → Array α) {G : σ → Nat → σ} (pP : σ' → Array α) {G' : Nat → σ' → Nat → σ'} {i : σ → Nat → σ'}
    (hG : ∀ s w, qP (G s w) = pP ((List.range vmax).foldl (G' w) (i s w)) ∧ qL (G s w) = qL s)
    (hi : ∀ s w, pP (i s w) = qP s)
    (hG' : ∀ w s v, pP (G' w s v) = (pP s).setIfInBounds (v * wmax + w) (F v w)) (s0 : σ) :
    (qP ((List.range wmax).foldl G s0), qL ((List.range wmax).foldl G s0)) = (fillCells F vmax wmax (qP s0), qL s0) := by
  refine congr (congrArg Prod.mk ?_) ?_
  · refine foldl_proj _ G qP (fun P w => (List.range vmax).foldl (fun P v => P.setIfInBounds (v * wmax + w) (F v w)) P)
      (fun s w => ?_) s0
    rw [(hG s w).1, foldl_proj _ (G' w) pP (fun P v => P.setIfInBounds (v * wmax + w) (F v w)) (hG' w), hi]
  · exact (foldl_proj _ G qL (fun L _ => L) (fun s w => (hG s w).2) s0).trans (foldl_keep _ _)

/-! ### result of a loop with an early `return` -/

/-- what the station loop hands back: the early-returned array if there is one, otherwise the array of the final state -/
def result {τ : Type} (s : Option (Array α) × Array α × τ) : Array α :=
  match s.1 with
  | some q => q
  | none => s.2.1

@[simp] theorem result_some {τ : Type} (q P : Array α) (r : τ) : result (some q, P, r) = q := rfl
@[simp] theorem result_none {τ : Type} (P : Array α) (r : τ) : result (none, P, r) = P := rfl

/-! ### `utmin`, `utmax`: an `if` whose branches call the same join point `f` -/

theorem ite_min_max {β : Type} (f : Nat → Nat → β) (a b : Nat) :
    (if decide (a > b) = true then f b a else f a b) = f (min a b) (max a b) := by
  by_cases h : b < a
  · rw [if_pos (decide_eq_true h), Nat.min_eq_right (Nat.le_of_lt h), Nat.max_eq_left (Nat.le_of_lt h)]
  · rw [if_neg (mt of_decide_eq_true h), Nat.min_eq_left (Nat.le_of_not_lt h), Nat.max_eq_right (Nat.le_of_not_lt h)]

end plain

variable {α : Type} [Add α] [Sub α] [Mul α] [Div α] [Neg α] [Flt α]

/-! ### the station loop -/

/-- the sum accumulated by the inner `k` loop of the station loops (index `u * vmax * kmax + v * kmax + k`) is `PyxSpec.amp` -/
theorem amp_fold (a mt : Array α) (vmax kmax wmax u v w : Nat) :
    (List.range kmax).foldl (fun x k => x + a.getD (u * vmax * kmax + v * kmax + k) (c 0) * mt.getD (k * wmax + w) (c 0)) (c 0)
      = amp a mt vmax kmax wmax u v w := rfl

/-- the same sum where the code indexes `a[u, v, k]` as `(u * vmax + v) * kmax + k` (the relative-amplitude kernels) -/
theorem amp_fold_nested (a mt : Array α) (vmax kmax wmax u v w : Nat) :
    (List.range kmax).foldl
        (fun x k => x + a.getD ((u * vmax + v) * kmax + k) (c 0) * mt.getD (k * wmax + w) (c 0)) (c 0)
      = amp a mt vmax kmax wmax u v w := by
  unfold amp at3 at2
  simp only [Nat.add_mul]

/-- one pass of a station loop, for the stations `u < N` only: add `t u` to cell `index`, then stop if that cell reads `-inf` -/
def StationBodyBelow {τ : Type} (N index : Nat) (t : Nat → α)
    (body : Nat → Option (Array α) × Array α × τ → Id (ForInStep (Option (Array α) × Array α × τ))) : Prop :=
  ∀ (u : Nat), u < N → ∀ (o : Option (Array α)) (P : Array α) (r : τ), ∃ r' : τ,
    body u (o, P, r) =
      pure (if Flt.eqb ((P.setIfInBounds index (P.getD index (c 0) + t u)).getD index (c 0)) negInf = true then
          ForInStep.done (some (P.setIfInBounds index (P.getD index (c 0) + t u)),
            P.setIfInBounds index (P.getD index (c 0) + t u), r')
        else ForInStep.yield (none, P.setIfInBounds index (P.getD index (c 0) + t u), r'))

theorem forIn_station_list_below {τ : Type} (N index : Nat) (t : Nat → α)
    (body : Nat → Option (Array α) × Array α × τ → Id (ForInStep (Option (Array α) × Array α × τ)))
    (hbody : StationBodyBelow N index t body) (n s : Nat) (hs : s + n ≤ N) (P : Array α) (r : τ) :
    result (forIn (List.range' s n) (none, P, r) body).run
      = P.setIfInBounds index (accumulate t n s (P.getD index (c 0))) := by
  induction n generalizing s P r with
  | zero => exact (setIfInBounds_getD_self P index (c 0)).symm
  | succ n ih =>
    obtain ⟨r', hb⟩ := hbody s (by omega) none P r
    rw [List.range'_succ, List.forIn_cons, hb]
    simp only [pure_bind, accumulate]
    -- both sides in terms of the array `P'` just written, whose cell `index` the code's test reads (in or out of bounds)
    rw [← set_set_of_getD P index (P.getD index (c 0) + t s) (c 0)
      (fun z => if Flt.eqb z negInf = true then z else accumulate t n (s + 1) z)]
    generalize P.setIfInBounds index (P.getD index (c 0) + t s) = P'
    by_cases hstop : Flt.eqb (P'.getD index (c 0)) negInf = true
    · simp only [hstop, if_true, Id.run_pure, result_some]
      exact (setIfInBounds_getD_self P' index (c 0)).symm
    · simp only [hstop, Bool.false_eq_true, if_false]
      exact ih (s + 1) (by omega) P' r'

/-- `k` is the `return` of the early-returned or final array that follows the loop; `hN`: the count on the specification side
    may be written differently from the loop bound -/
theorem forIn_station_below {τ : Type} {index : Nat} {t : Nat → α}
    {body : Nat → Option (Array α) × Array α × τ → Id (ForInStep (Option (Array α) × Array α × τ))}
    {n N : Nat} (hN : N = n) (hbody : StationBodyBelow n index t body) (P : Array α) (r : τ)
    (k : Option (Array α) × Array α × τ → Id (Array α)) (hsome : ∀ q P r, (k (some q, P, r)).run = q)
    (hnone : ∀ P r, (k (none, P, r)).run = P) :
    (forIn [0:n] (none, P, r) body >>= k).run
      = P.setIfInBounds index (accumulate t N 0 (P.getD index (c 0))) := by
  subst hN
  have hk : ∀ s, (k s).run = result s := by
    rintro ⟨_ | q, P, r⟩
    · exact hnone P r
    · exact hsome q P r
  rw [Id.run_bind, hk, forIn_range_eq_list]
  exact forIn_station_list_below N index t body hbody N 0 (by omega) P r

/-- the kernels write the location-sample multiplier to a cell and then run a station loop on that cell -/
theorem set_set_accumulate (P : Array α) (i : Nat) (x : α) (t : Nat → α) (n : Nat) :
    (P.setIfInBounds i x).setIfInBounds i (accumulate t n 0 ((P.setIfInBounds i x).getD i (c 0)))
      = P.setIfInBounds i (accumulate t n 0 x) :=
  set_set_of_getD P i x (c 0) (accumulate t n 0)

/-! ### the marginalised kernels: log-sum-exp over the location samples -/

/-- running maximum of the location-sample values, started from `-inf` as the code does -/
def margMax (x : Nat → α) (vmax : Nat) : α :=
  (List.range vmax).foldl (fun m v => fmax m (x v)) negInf

/-- `Σ_v exp (x v - m)`, summed left to right starting from 0 -/
def margSum (x : Nat → α) (vmax : Nat) (m : α) : α :=
  (List.range vmax).foldl (fun s v => s + Flt.exp (x v - m)) (c 0)

/-- the marginalised cell: `log (Σ_v exp (x v - m)) + m` with `m` the running maximum, or `-inf` when `m` is not `> -inf` -/
def margCell (x : Nat → α) (vmax : Nat) : α :=
  if Flt.ltb negInf (margMax x vmax) = true then
    Flt.log (margSum x vmax (margMax x vmax)) + margMax x vmax
  else negInf

theorem foldl_add_cell {ι : Type} (P : Array α) (w : Nat) (l : List ι) (e : ι → α) :
    l.foldl (fun P v => P.setIfInBounds w (P.getD w (c 0) + e v)) P
      = P.setIfInBounds w (l.foldl (fun s v => s + e v) (P.getD w (c 0))) := by
  induction l generalizing P with
  | nil => exact (setIfInBounds_getD_self P w (c 0)).symm
  | cons k l ih =>
    rw [List.foldl_cons, ih]
    exact set_set_of_getD P w _ (c 0) (fun z => l.foldl (fun s v => s + e v) z)

theorem foldl_add_cell_zero {ι : Type} (P : Array α) (w : Nat) (l : List ι) (e : ι → α) :
    l.foldl (fun P v => P.setIfInBounds w (P.getD w (c 0) + e v)) (P.setIfInBounds w (c 0))
      = P.setIfInBounds w (l.foldl (fun s v => s + e v) (c 0)) := by
  rw [foldl_add_cell]
  exact set_set_of_getD P w (c 0) (c 0) (fun z => l.foldl (fun s v => s + e v) z)

/-- the marginalising kernels on whatever loop states `σ`, `σ₁`, `σ₂` the outer loop and the two inner loops carry: the first
    inner loop writes `X v w` to cell `v` of the location-sample buffer (projection `pL`) and tracks the running maximum
    (projection `pM`); the second adds `exp (buffer[v] - maximum)` to cell `w` of `ln_P` (projection `pP`); `R₁`, `R₂` are the
    outer states assembled in the two branches of `if maximum > -inf`.  Stated for the pass as the `do` block it is and not, like
    `fill_loop`, for a fold: the final state `t₁` of the first inner loop is read in several places, and as a fold it would stand
    in the goal that often.  `qP`, `qL` as in `fill_loop`; used like it: the goal fixes `body`, `hbody` everything else. -/
theorem marg_loop {σ σ₁ σ₂ : Type} (X : Nat → Nat → α) (vmax wmax : Nat)
    (qP qL : σ → Array α) {body : Nat → σ → Id (ForInStep σ)}
    (pL : σ₁ → Array α) (pM : σ₁ → α) {G₁ : Nat → σ₁ → Nat → σ₁} {s₁ : σ → Nat → σ₁}
    (pP : σ₂ → Array α) {G₂ : σ → Nat → σ₁ → σ₂ → Nat → σ₂} {s₂ : σ → Nat → σ₁ → σ₂}
    {R₁ : σ → Nat → σ₁ → σ₂ → σ} {R₂ : σ → Nat → σ₁ → σ}
    (hbody : ∀ w s, body w s = do
      let t₁ ← forIn [0:vmax] (s₁ s w) fun v t => pure (ForInStep.yield (G₁ w t v))
      if Flt.ltb negInf (pM t₁) = true then do
        let t₂ ← forIn [0:vmax] (s₂ s w t₁) fun v t => pure (ForInStep.yield (G₂ s w t₁ t v))
        pure (ForInStep.yield (R₁ s w t₁ t₂))
      else pure (ForInStep.yield (R₂ s w t₁)))
    (hR : ∀ s w t₁ t₂, qP (R₁ s w t₁ t₂) = (pP t₂).setIfInBounds w (Flt.log ((pP t₂).getD w (c 0)) + pM t₁) ∧
        qP (R₂ s w t₁) = (qP s).setIfInBounds w negInf ∧ qL (R₁ s w t₁ t₂) = pL t₁ ∧ qL (R₂ s w t₁) = pL t₁)
    (h₁ : ∀ w t v, pL (G₁ w t v) = (pL t).setIfInBounds v (X v w) ∧
        pM (G₁ w t v) = fmax (pM t) ((pL (G₁ w t v)).getD v (c 0)))
    (hs₁ : ∀ s w, pL (s₁ s w) = qL s ∧ pM (s₁ s w) = negInf)
    (h₂ : ∀ s w t₁ t v, pP (G₂ s w t₁ t v)
      = (pP t).setIfInBounds w ((pP t).getD w (c 0) + Flt.exp ((pL t₁).getD v (c 0) - pM t₁)))
    (hs₂ : ∀ s w t₁, pP (s₂ s w t₁) = (qP s).setIfInBounds w (c 0))
    (s0 : σ) (hL : vmax ≤ (qL s0).size) :
    qP (forIn [0:wmax] s0 body).run
      = (List.range wmax).foldl (fun P w => P.setIfInBounds w (margCell (fun v => X v w) vmax)) (qP s0) := by
  obtain rfl : body = _ := funext fun w => funext (hbody w)
  simp only [forIn_range_yield, pure_bind, ite_pure_yield, Id.run_pure]
  refine (foldl_sim (List.range wmax) _ qP _ (fun s => vmax ≤ (qL s).size) (fun s w _ hInv => ?_) s0 hL).1
  rw [← (hs₁ s w).1] at hInv
  generalize ht₁ : (List.range vmax).foldl (fun t v => G₁ w t v) (s₁ s w) = t₁
  generalize ht₂ : (List.range vmax).foldl (fun t v => G₂ s w t₁ t v) (s₂ s w t₁) = t₂
  obtain ⟨hR₁, hR₂, hL₁, hL₂⟩ := hR s w t₁ t₂
  -- the first inner loop fills the buffer and finds the maximum, the second sums the shifted exponentials into cell `w`
  have hfill : pL t₁ = (List.range vmax).foldl (fun L v => L.setIfInBounds v (X v w)) (pL (s₁ s w)) :=
    ht₁ ▸ foldl_proj _ (G₁ w) pL _ (fun t v => (h₁ w t v).1) _
  have hmax : pM t₁ = margMax (fun v => X v w) vmax := by
    subst ht₁
    refine ((foldl_sim (List.range vmax) (G₁ w) pM (fun m v => fmax m (X v w)) (fun t => vmax ≤ (pL t).size) ?_ _
      hInv).1).trans (by rw [(hs₁ s w).2]; rfl)
    intro t v hv ht
    rw [(h₁ w t v).2, (h₁ w t v).1, getD_setIfInBounds_self (Nat.lt_of_lt_of_le (List.mem_range.mp hv) ht)]
    exact ⟨rfl, by simpa using ht⟩
  have hsum : pP t₂ = (List.range vmax).foldl (fun P v => P.setIfInBounds w
      (P.getD w (c 0) + Flt.exp (X v w - margMax (fun v => X v w) vmax))) ((qP s).setIfInBounds w (c 0)) := by
    subst ht₂
    refine ((foldl_sim (List.range vmax) (G₂ s w t₁) pP _ (fun _ => True) ?_ _ trivial).1).trans (by rw [hs₂])
    intro t v hv _
    rw [h₂ s w t₁ t v, hfill, hmax, getD_foldl_set_self (fun v => X v w) vmax _ _ hInv (List.mem_range.mp hv)]
    exact ⟨rfl, trivial⟩
  rw [hsum, foldl_add_cell_zero, set_set_of_getD _ w _ (c 0) (fun z => Flt.log z + _), hmax] at hR₁
  rw [hfill] at hL₁ hL₂
  rw [hmax]
  unfold margCell margSum
  split
  · exact ⟨hR₁, by rw [hL₁, size_foldl_write]; exact hInv⟩
  · exact ⟨hR₂, by rw [hL₂, size_foldl_write]; exact hInv⟩

end PyxLoop

/-! ### lists indexed by ranges -/

namespace PyxBinning

theorem map_range_getD {β : Type} (l : List β) (d : β) : (List.range' 0 l.length).map (fun i => l.getD i d) = l := by
  apply List.ext_getElem
  · simp
  · intro i h1 h2
    simp [List.getElem?_eq_getElem h2]

theorem zip_eq_map_range {β γ : Type} (as : List β) (bs : List γ) (n : Nat) (ha : as.length = n) (hb : bs.length = n)
    (da : β) (db : γ) : as.zip bs = (List.range' 0 n).map (fun i => (as.getD i da, bs.getD i db)) := by
  rw [← List.zip_map', ← ha, map_range_getD, ha, ← hb, map_range_getD]

end PyxBinning
end MTfitVerif
