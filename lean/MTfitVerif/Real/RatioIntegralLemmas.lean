import MTfitVerif.Real.RatioPdfLemmas
/-
  Analytic lemmas for C03: the closed form of `∫ |y| e^{-s²(y-m)²/2} dy`; the weight is `gauss s m y`.
  The line is folded onto `(0, ∞)`, where the integral comes from an explicit antiderivative `H` and
  the fundamental theorem of calculus.
-/
namespace MTfitVerif
open Real MeasureTheory Filter Topology Set

namespace RatioInt

noncomputable def gauss (s m y : ℝ) : ℝ := exp (-(s^2 * (y - m)^2) / 2)

theorem gauss_eq_exp_neg_sq (s m y : ℝ) : gauss s m y = exp (-(s * (y - m) / √2)^2) := by
  rw [gauss, div_pow, Real.sq_sqrt zero_le_two, mul_pow, neg_div]

theorem gauss_zero (s m : ℝ) : gauss s m 0 = exp (-(s^2 * m^2) / 2) := by
  rw [gauss, zero_sub, neg_sq]

theorem gauss_neg (s m y : ℝ) : gauss s m (-y) = gauss s (-m) y := by
  rw [gauss, gauss, sub_neg_eq_add, ← neg_add', neg_sq]

theorem hasDerivAt_gauss (s m y : ℝ) :
    HasDerivAt (gauss s m) (gauss s m y * -(s^2 * (y - m))) y := by
  have h :=
    ((((((hasDerivAt_id' y).sub_const m).fun_pow 2).const_mul (s^2)).fun_neg).div_const 2).exp
  refine h.congr_deriv ?_
  rw [Nat.cast_ofNat, pow_one, mul_one, gauss]
  ring

theorem hasDerivAt_lin (s m y : ℝ) :
    HasDerivAt (fun y : ℝ => s * (y - m) / √2) (s / √2) y := by
  have h := ((((hasDerivAt_id' y).sub_const m)).const_mul s).div_const (√2)
  refine h.congr_deriv ?_
  simp

theorem hasDerivAt_erf_lin (s m y : ℝ) :
    HasDerivAt (fun y : ℝ => erf (s * (y - m) / √2)) (2 / √π * gauss s m y * (s / √2)) y := by
  rw [gauss_eq_exp_neg_sq]
  exact (hasDerivAt_erf _).comp y (hasDerivAt_lin s m y)

/-- antiderivative of `y ↦ y · gauss s m y` -/
noncomputable def H (s m y : ℝ) : ℝ :=
  -gauss s m y / s^2 + m * (√(2 * π) / (2 * s)) * erf (s * (y - m) / √2)

/-- the derivative of `H` simplifies: `X` is the weight, `q = √2`, `p = √π` -/
theorem deriv_H_algebra {s p q : ℝ} (hs : s ≠ 0) (hp : p ≠ 0) (hq : q ≠ 0) (m y X : ℝ) :
    -(X * -(s^2 * (y - m))) / s^2 + m * (q * p / (2 * s)) * (2 / p * X * (s / q)) = y * X := by
  field_simp
  ring

theorem hasDerivAt_H {s : ℝ} (hs : 0 < s) (m y : ℝ) :
    HasDerivAt (H s m) (y * gauss s m y) y := by
  have h : HasDerivAt (H s m) _ y :=
    (((hasDerivAt_gauss s m y).neg).div_const (s^2)).add
      ((hasDerivAt_erf_lin s m y).const_mul (m * (√(2 * π) / (2 * s))))
  refine h.congr_deriv ?_
  rw [sqrt_two_pi]
  exact deriv_H_algebra hs.ne' (by positivity) (by positivity) m y _

theorem tendsto_lin_atTop {s : ℝ} (hs : 0 < s) (m : ℝ) :
    Tendsto (fun y : ℝ => s * (y - m) / √2) atTop atTop :=
  ((tendsto_atTop_add_const_right _ (-m) tendsto_id).const_mul_atTop hs).atTop_div_const
    (by positivity)

theorem tendsto_gauss_atTop {s : ℝ} (hs : 0 < s) (m : ℝ) : Tendsto (gauss s m) atTop (𝓝 0) := by
  have h := tendsto_exp_atBot.comp (tendsto_neg_atTop_atBot.comp
    ((tendsto_pow_atTop two_ne_zero).comp (tendsto_lin_atTop hs m)))
  exact h.congr fun y => (gauss_eq_exp_neg_sq s m y).symm

theorem tendsto_H_atTop {s : ℝ} (hs : 0 < s) (m : ℝ) :
    Tendsto (H s m) atTop (𝓝 (m * (√(2 * π) / (2 * s)))) := by
  have h1 := ((tendsto_gauss_atTop hs m).neg).div_const (s^2)
  have h2 := ((erf_tendsto_atTop.comp (tendsto_lin_atTop hs m))).const_mul (m * (√(2 * π) / (2 * s)))
  have h := h1.add h2
  simp only [neg_zero, zero_div, zero_add, mul_one] at h
  exact h

theorem integrable_mul_gauss {s : ℝ} (hs : 0 < s) (m : ℝ) :
    Integrable fun y : ℝ => y * gauss s m y := by
  have hb : 0 < s^2 / 2 := half_pos (pow_pos hs 2)
  have i1 := (integrable_mul_exp_neg_mul_sq hb).comp_sub_right m
  have i2 := ((integrable_exp_neg_mul_sq hb).comp_sub_right m).const_mul m
  refine (i1.add i2).congr (Filter.Eventually.of_forall fun y => ?_)
  -- `(y - m) * e + m * e = y * e'`, the exponents `e, e'` differing only in bracketing
  dsimp only [Pi.add_apply]
  rw [← add_mul, sub_add_cancel, neg_mul, div_mul_eq_mul_div, gauss, neg_div]

theorem integrable_abs_mul_gauss {s : ℝ} (hs : 0 < s) (m : ℝ) :
    Integrable fun y : ℝ => |y| * gauss s m y := by
  refine (integrable_mul_gauss hs m).abs.congr (Filter.Eventually.of_forall fun y => ?_)
  simp only [abs_mul, abs_of_pos (exp_pos _), gauss]

theorem H_zero (s m : ℝ) :
    H s m 0 = -gauss s m 0 / s^2 - m * (√(2 * π) / (2 * s)) * erf (s * m / √2) := by
  rw [H, zero_sub, mul_neg, neg_div (√2), erf_neg, mul_neg, ← sub_eq_add_neg]

/-- folding a density on the line onto the positive half-line -/
theorem integral_Ioi_add_comp_neg {f : ℝ → ℝ} (hf : Integrable f) :
    ∫ r in Ioi (0:ℝ), (f r + f (-r)) = ∫ x : ℝ, f x := by
  have hneg : Integrable fun r : ℝ => f (-r) := hf.comp_neg
  rw [integral_add hf.integrableOn hneg.integrableOn, integral_comp_neg_Ioi, neg_zero, add_comm]
  exact intervalIntegral.integral_Iic_add_Ioi hf.integrableOn hf.integrableOn

theorem integral_Ioi_mul_gauss {s : ℝ} (hs : 0 < s) (m : ℝ) :
    ∫ y in Ioi (0:ℝ), y * gauss s m y = m * (√(2 * π) / (2 * s)) - H s m 0 :=
  integral_Ioi_of_hasDerivAt_of_tendsto' (fun x _ => hasDerivAt_H hs m x)
    (integrable_mul_gauss hs m).integrableOn (tendsto_H_atTop hs m)

theorem integral_abs_mul_gauss {s : ℝ} (hs : 0 < s) (m : ℝ) :
    ∫ y : ℝ, |y| * exp (-(s^2 * (y - m)^2) / 2)
      = 2 / s^2 * exp (-(s^2 * m^2) / 2) + m * (√(2 * π) / s) * erf (s * m / √2) := by
  -- fold the line onto `(0, ∞)`: the part over `(-∞, 0)` is the same integral with `-m` for `m`
  refine (integral_Ioi_add_comp_neg (integrable_abs_mul_gauss hs m)).symm.trans ?_
  rw [setIntegral_congr_fun (g := fun r => r * gauss s m r + r * gauss s (-m) r) measurableSet_Ioi
      fun r hr => by
        dsimp only
        rw [abs_neg, abs_of_pos hr, gauss_neg],
    integral_add (integrable_mul_gauss hs m).integrableOn
      (integrable_mul_gauss hs (-m)).integrableOn,
    integral_Ioi_mul_gauss hs m, integral_Ioi_mul_gauss hs (-m), H_zero, H_zero, gauss_zero,
    gauss_zero, mul_neg, neg_div (√2), erf_neg, neg_sq]
  ring

end RatioInt
end MTfitVerif
