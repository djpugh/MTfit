import MTfitVerif.Model.Polarity
import MTfitVerif.Real.LogPSem
/-
  Lemmas for C02 (polarity likelihoods) over ℝ: `sigmaFix`; the mispick mixture `a (1 - w) + b w`,
  which `polProbRaw` and `polProbP` both are; `polProbRaw` as an affine function of the one quantity
  `erf (A / (√2 σ))`, from which complement, monotonicity and (`tendsto_erfArg`) the limit `σ → 0⁺`
  are read off; `heav`.
-/
namespace MTfitVerif
namespace Polarity
open Filter Topology

theorem sigmaFix_eq (σ : ℝ) : sigmaFix σ = if σ = 0 then (1e-24 : ℝ) else σ := by
  unfold sigmaFix
  simp only [flt_eqb, flt_c, Nat.cast_zero, decide_eq_true_eq, flt_sci]

theorem sigmaFix_zero : sigmaFix (0 : ℝ) = 1e-24 := by
  rw [sigmaFix_eq]; simp

theorem sigmaFix_of_ne {σ : ℝ} (h : σ ≠ 0) : sigmaFix σ = σ := by
  rw [sigmaFix_eq]; simp [h]

theorem small_pos : (0 : ℝ) < 1e-24 := by norm_num

theorem sigmaFix_ne_zero (σ : ℝ) : sigmaFix σ ≠ 0 := by
  rw [sigmaFix_eq]
  split
  · exact small_pos.ne'
  · assumption

/-! ### the mispick mixture `a (1 - w) + b w`

`polProbRaw` and `polProbP` both have this form, with `a`, `b` probabilities of the two polarities. -/

theorem mix_nonneg {a b w : ℝ} (ha : 0 ≤ a) (hb : 0 ≤ b) (hw0 : 0 ≤ w) (hw1 : w ≤ 1) :
    0 ≤ a * (1 - w) + b * w :=
  add_nonneg (mul_nonneg ha (sub_nonneg.2 hw1)) (mul_nonneg hb hw0)

theorem mix_le_one {a b w : ℝ} (ha : a ≤ 1) (hb : b ≤ 1) (hw0 : 0 ≤ w) (hw1 : w ≤ 1) :
    a * (1 - w) + b * w ≤ 1 := by
  have h1 := mul_le_mul_of_nonneg_right ha (sub_nonneg.2 hw1)
  have h2 := mul_le_mul_of_nonneg_right hb hw0
  linarith

theorem mix_pos {a b w : ℝ} (ha : 0 < a) (hb : 0 < b) (hw0 : 0 ≤ w) (hw1 : w ≤ 1) :
    0 < a * (1 - w) + b * w := by
  rcases hw0.eq_or_lt with rfl | h
  · simpa using ha
  · exact add_pos_of_nonneg_of_pos (mul_nonneg ha.le (sub_nonneg.2 hw1)) (mul_pos hb h)

theorem half_erf_pos (x : ℝ) : 0 < 1 / 2 * (1 + erf x) :=
  mul_pos one_half_pos (neg_lt_iff_pos_add'.1 (neg_one_lt_erf x))

theorem half_erf_le_one (x : ℝ) : 1 / 2 * (1 + erf x) ≤ 1 := by
  have := erf_lt_one x; linarith

theorem polProbRaw_eq (A σ w : ℝ) :
    polProbRaw A σ w
      = (1/2) * (1 + erf (A / (√2 * σ))) * (1 - w) + (1/2) * (1 + erf (-A / (√2 * σ))) * w := by
  unfold polProbRaw
  simp only [flt_half, flt_c, flt_erf, flt_sqrt, Nat.cast_one, Nat.cast_ofNat]

/-- affine form in the single quantity `e = erf (A / (√2 σ))` -/
theorem polProbRaw_eq_affine (A σ w : ℝ) :
    polProbRaw A σ w = w + (1/2) * (1 + erf (A / (√2 * σ))) * (1 - 2 * w) := by
  rw [polProbRaw_eq, neg_div, erf_neg]; ring

theorem polProbRaw_pos (A σ : ℝ) {w : ℝ} (hw0 : 0 ≤ w) (hw1 : w ≤ 1) : 0 < polProbRaw A σ w := by
  rw [polProbRaw_eq]; exact mix_pos (half_erf_pos _) (half_erf_pos _) hw0 hw1

theorem polProbRaw_le_one (A σ : ℝ) {w : ℝ} (hw0 : 0 ≤ w) (hw1 : w ≤ 1) : polProbRaw A σ w ≤ 1 := by
  rw [polProbRaw_eq]; exact mix_le_one (half_erf_le_one _) (half_erf_le_one _) hw0 hw1

theorem polProbRaw_compl (A σ w : ℝ) : polProbRaw A σ w + polProbRaw (-A) σ w = 1 := by
  rw [polProbRaw_eq_affine, polProbRaw_eq_affine, neg_div, erf_neg]; ring

theorem sqrt2_mul_pos {σ : ℝ} (hσ : 0 < σ) : 0 < √2 * σ := by positivity

theorem erfArg_strictMono {σ : ℝ} (hσ : 0 < σ) : StrictMono fun A : ℝ => erf (A / (√2 * σ)) := by
  intro a b hab
  exact erf_strictMono (div_lt_div_of_pos_right hab (sqrt2_mul_pos hσ))

theorem polProbRaw_sub (a b σ w : ℝ) :
    polProbRaw b σ w - polProbRaw a σ w
      = (1 / 2 - w) * (erf (b / (√2 * σ)) - erf (a / (√2 * σ))) := by
  rw [polProbRaw_eq_affine, polProbRaw_eq_affine]; ring

theorem polProbRaw_strictMono {σ w : ℝ} (hσ : 0 < σ) (hw : w < 1/2) :
    StrictMono fun A => polProbRaw A σ w := fun a b hab =>
  sub_pos.1 <| by
    rw [polProbRaw_sub]
    exact mul_pos (sub_pos.2 hw) (sub_pos.2 (erfArg_strictMono hσ hab))

theorem polProbRaw_mono {σ w : ℝ} (hσ : 0 < σ) (hw : w ≤ 1/2) :
    Monotone fun A => polProbRaw A σ w := fun a b hab =>
  sub_nonneg.1 <| by
    rw [polProbRaw_sub]
    exact mul_nonneg (sub_nonneg.2 hw) (sub_nonneg.2 ((erfArg_strictMono hσ).monotone hab))

theorem polProbRaw_antitone {σ w : ℝ} (hσ : 0 < σ) (hw : 1/2 ≤ w) :
    Antitone fun A => polProbRaw A σ w := fun a b hab =>
  sub_nonpos.1 <| by
    rw [polProbRaw_sub]
    exact mul_nonpos_of_nonpos_of_nonneg (sub_nonpos.2 hw)
      (sub_nonneg.2 ((erfArg_strictMono hσ).monotone hab))

theorem polProbRaw_half (A σ : ℝ) : polProbRaw A σ (1/2) = 1/2 := by
  rw [polProbRaw_eq_affine]; ring

theorem tendsto_erfArg (A : ℝ) :
    Tendsto (fun σ : ℝ => erf (A / (√2 * σ))) (𝓝[>] 0)
      (𝓝 (if 0 < A then 1 else if A < 0 then -1 else 0)) := by
  -- `A / (√2 σ) = (A / √2) σ⁻¹`, and `σ⁻¹ → ∞`
  simp only [← div_div, div_eq_mul_inv (A / √2)]
  have h : Tendsto (fun σ : ℝ => σ⁻¹) (𝓝[>] 0) atTop := tendsto_inv_nhdsGT_zero
  rcases lt_trichotomy 0 A with hA | rfl | hA
  · rw [if_pos hA]
    exact erf_tendsto_atTop.comp (h.const_mul_atTop (by positivity))
  · simp
  · rw [if_neg hA.not_gt, if_pos hA]
    exact erf_tendsto_atBot.comp
      (h.const_mul_atTop_of_neg (div_neg_of_neg_of_pos hA (by positivity)))

theorem heav_eq (x : ℝ) : heav x = if x < 0 then 0 else if 0 < x then 1 else 1/2 := by
  unfold heav
  simp only [flt_ltb, flt_c, flt_half, Nat.cast_zero, Nat.cast_one, decide_eq_true_eq]

theorem heav_of_pos {x : ℝ} (h : 0 < x) : heav x = 1 := by
  rw [heav_eq]; simp [h, not_lt.mpr h.le]

theorem heav_of_neg {x : ℝ} (h : x < 0) : heav x = 0 := by
  rw [heav_eq]; simp [h]

theorem heav_zero : heav (0 : ℝ) = 1/2 := by
  rw [heav_eq]; simp

theorem heav_add_neg (x : ℝ) : heav x + heav (-x) = 1 := by
  rcases lt_trichotomy 0 x with h | rfl | h
  · rw [heav_of_pos h, heav_of_neg (neg_neg_of_pos h), add_zero]
  · rw [neg_zero, heav_zero]; norm_num
  · rw [heav_of_neg h, heav_of_pos (neg_pos.2 h), zero_add]

theorem heav_nonneg (x : ℝ) : 0 ≤ heav x := by
  rw [heav_eq]; split_ifs <;> norm_num

theorem heavAvg_mem (A : ℝ) {p q : ℝ} (hp : 0 ≤ p ∧ p ≤ 1) (hq : 0 ≤ q ∧ q ≤ 1) :
    0 ≤ heav A * p + heav (-A) * q ∧ heav A * p + heav (-A) * q ≤ 1 := by
  -- the mixture of `p` and `q` with weight `heav (-A)`
  have hw0 := heav_nonneg (-A)
  have hw1 : heav (-A) ≤ 1 := by linarith [heav_add_neg A, heav_nonneg A]
  rw [eq_sub_of_add_eq (heav_add_neg A), mul_comm _ p, mul_comm _ q]
  exact ⟨mix_nonneg hp.1 hq.1 hw0 hw1, mix_le_one hp.2 hq.2 hw0 hw1⟩

theorem polProbP_eq (A pp pn w : ℝ) :
    polProbP A pp pn w
      = (heav A * pp + heav (-A) * pn) * (1 - w) + (heav A * pn + heav (-A) * pp) * w := by
  unfold polProbP
  simp only [flt_c, Nat.cast_one]

end Polarity
end MTfitVerif
