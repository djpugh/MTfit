import MTfitVerif.Model.Forward
import MTfitVerif.Props.C04
/-
  Helper lemmas for C01 (above `Props/C04`, for `C04.lnMargCol_exact`): equations of `polTerm`, `lnAt` and `weighted`,
  congruence of `value` and what it denotes with location samples, `zip`/`range`/`filter` facts.
-/
namespace MTfitVerif

namespace Forward
open LogP Polarity RatioPdf

theorem lnPolAt_perm {l₁ l₂ : List (PolStation ℝ)} (h : l₁.Perm l₂) (k : Nat) (mt : List ℝ) :
    lnPolAt l₁ k mt = lnPolAt l₂ k mt := by
  unfold lnPolAt; exact sum_perm (h.map _)

theorem lnArAt_perm {l₁ l₂ : List (ArStation ℝ)} (h : l₁.Perm l₂) (k : Nat) (mt : List ℝ) :
    lnArAt l₁ k mt = lnArAt l₂ k mt := by
  unfold lnArAt; exact sum_perm (h.map _)

/-- The test for an empty list of polarity probabilities in `polTerm` changes nothing: the empty
    sum is the unit. -/
theorem polTerm_eq (d : Data ℝ) (k : Nat) (mt : List ℝ) :
    polTerm d k mt =
      if !d.pol.isEmpty then lnPolAt d.pol k mt else lnPolProbAt d.polProb k mt := by
  unfold polTerm
  cases d.polProb <;> rfl

theorem lnAt_of_ar_eq_nil {d : Data ℝ} (h : d.ar = []) (k : Nat) (mt : List ℝ) :
    lnAt d k mt = polTerm d k mt := by
  unfold lnAt; rw [h]; rfl

theorem lnArAt_nil (k : Nat) (mt : List ℝ) : lnArAt ([] : List (ArStation ℝ)) k mt = fin 0 :=
  sum_nil

/-- The test for an empty ratio list in `lnAt` changes nothing: the empty sum is the unit. -/
theorem lnAt_eq_add (d : Data ℝ) (k : Nat) (mt : List ℝ) :
    lnAt d k mt = add (polTerm d k mt) (lnArAt d.ar k mt) := by
  unfold lnAt
  split_ifs with h
  · rw [List.isEmpty_iff.1 h, lnArAt_nil, add_fin_zero]
  · rfl

theorem lnAt_of_pol_eq_nil {d : Data ℝ} (hp : d.pol = []) (hpp : d.polProb = []) (k : Nat)
    (mt : List ℝ) : lnAt d k mt = lnArAt d.ar k mt := by
  have h : polTerm d k mt = fin 0 := by rw [polTerm_eq, hp, hpp]; exact sum_nil
  rw [lnAt_eq_add, h, fin_zero_add]

theorem weighted_of_nloc_le_one {d : Data ℝ} (h : d.nloc ≤ 1) (k : Nat) (x : LogP ℝ) :
    weighted d k x = x := by
  unfold weighted
  cases d.weights with
  | none => rfl
  | some ws => simp only [gt_iff_lt, not_lt.mpr h, if_false]

theorem weighted_of_some {d : Data ℝ} (h : 1 < d.nloc) {ws : List ℝ} (hws : d.weights = some ws)
    (k : Nat) (x : LogP ℝ) : weighted d k x = shift x (Real.log (ws.getD k 1)) := by
  unfold weighted
  rw [hws]
  simp only [gt_iff_lt, h, if_true, flt_log, flt_c, Nat.cast_one]

theorem weighted_of_none {d : Data ℝ} (hws : d.weights = none) (k : Nat) (x : LogP ℝ) :
    weighted d k x = x := by
  unfold weighted; rw [hws]

theorem value_congr {d d' : Data ℝ} (hn : d'.nloc = d.nloc) (hw : d'.weights = d.weights)
    (mt : List ℝ) (h : ∀ k, lnAt d' k mt = lnAt d k mt) : value d' mt = value d mt := by
  have hwt : ∀ k x, weighted d' k x = weighted d k x := by
    intro k x; unfold weighted; rw [hn, hw]
  have hcol : column d' mt = column d mt := by
    unfold column; rw [hn]
    apply List.map_congr_left
    intro k _; rw [h k, hwt]
  unfold value; rw [hcol, hn]

theorem toProb_value_of_one_lt_nloc (d : Data ℝ) (hK : 1 < d.nloc) (mt : List ℝ) :
    toProb (value d mt)
      = ((List.range d.nloc).map fun k => toProb (weighted d k (lnAt d k mt))).sum := by
  unfold value column
  rw [if_pos hK, C04.lnMargCol_exact _ (by simp), List.map_map]
  simp only [flt_c, Nat.cast_one, one_mul, Function.comp_def]

theorem zip_range_filter_snd {β} (q : β → Bool) (l : List β) :
    ((List.zip (List.range l.length) l).filter (fun p => q p.2)).map Prod.snd = l.filter q := by
  have h := List.filter_map (f := Prod.snd) (p := q) (l := List.zip (List.range l.length) l)
  rw [List.map_snd_zip List.length_range.ge] at h
  exact h.symm

theorem zip_range_eq_map {β} (dflt : β) (l : List β) :
    List.zip (List.range l.length) l = (List.range l.length).map fun i => (i, l.getD i dflt) := by
  apply List.ext_getElem
  · simp
  · intro i h1 h2
    have hi : i < l.length := by simpa using h2
    simp [List.getD_eq_getElem?_getD, hi]

theorem zip_range_filter_fst {β} (q : β → Bool) (dflt : β) (l : List β) :
    ((List.zip (List.range l.length) l).filter (fun p => q p.2)).map Prod.fst
      = (List.range l.length).filter (fun i => q (l.getD i dflt)) := by
  rw [zip_range_eq_map dflt, List.filter_map, List.map_map]
  exact List.map_id _

end Forward
end MTfitVerif
