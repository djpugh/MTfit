import MTfitVerif.Real.PyxLoopLemmas
import MTfitVerif.Real.ScatangleLemmas
/-
  Helper lemmas for `Props/C20Binning.lean`: the compiled scatter-binning kernel `cscatangle.get_multipliers`
  (three nested `for` loops, the innermost with `break`) against the binning model `Scatangle.binAux` of C18.
  The kernel is two nested folds over the multiplier array (`binKernel`, every scalar type).  Over ℝ the array is read as a
  function `ℕ → ℝ` (`toFun`); on cells that are `-1` or positive (`Signed`) the kernel's tests `== -1`, `> -1` are the one test
  `0 <` (`mergeP`, `sweeps`), and on the list `alive` of the positive cells with their records one `v` loop is one step of
  `binAux`.  Last, the flat angle array `anglesOf` of a record list, on which the kernel's closeness test is `Scatangle.close`.
-/
namespace MTfitVerif
namespace PyxBinning
open Scatangle

/-- the station loop: started with `ok = 1`, it stops at the first station that fails `p` (leaving `ok = 0`); if none
    fails, `ok = 1` and `w` is the last index visited (or untouched if there was none) -/
theorem forIn_break_all (p : Nat → Bool) (body : Nat → Nat × Nat → Id (ForInStep (Nat × Nat)))
    (hbody : ∀ k w, body k (w, 1) = if p k = true then pure (ForInStep.yield (k, 1)) else pure (ForInStep.done (k, 0)))
    (l : List Nat) (w0 : Nat) :
    (forIn l (w0, 1) body).run.2 = (if l.all p = true then 1 else 0) ∧
      (l.all p = true → (forIn l (w0, 1) body).run.1 = l.getLast?.getD w0) := by
  induction l generalizing w0 with
  | nil => exact ⟨rfl, fun _ => rfl⟩
  | cons k l ih =>
    rw [List.forIn_cons, hbody]
    by_cases hk : p k = true
    · simp only [hk, if_true, pure_bind, List.all_cons, Bool.true_and, List.getLast?_cons, Option.getD_some]
      exact ih k
    · simp only [hk, Bool.false_eq_true, if_false, pure_bind, List.all_cons, Bool.false_and, Id.run_pure]
      exact ⟨trivial, fun h => h.elim⟩

theorem id_bind_eq {β γ : Type} (X : Id β) (f : β → Id γ) : X >>= f = f X.run := rfl

/-- the test after the station loop: `w == nsta - 1 && ok > 0` holds iff every station matched.  For `nsta = 0` the loop
    does not run, `w` keeps its value and (truncated subtraction) `nsta - 1 = 0`: the test reads `w == 0`, which holds
    as long as `w` still has its initial value `0`. -/
theorem break_test (p : Nat → Bool) (body : Nat → Nat × Nat → Id (ForInStep (Nat × Nat)))
    (nsta : Nat) (w0 : Nat) (X : Id (Nat × Nat)) (hX : forIn [0:nsta] (w0, 1) body = X)
    (hbody : ∀ k w, body k (w, 1) = if p k = true then pure (ForInStep.yield (k, 1)) else pure (ForInStep.done (k, 0)))
    (h1 : 1 ≤ nsta ∨ w0 = 0) :
    (X.run.1 == nsta - 1 && decide (X.run.2 > 0)) = (List.range nsta).all p ∧ (1 ≤ nsta ∨ X.run.1 = 0) := by
  rw [← hX, PyxLoop.forIn_range_eq_list, ← List.range_eq_range']
  obtain ⟨h2, h3⟩ := forIn_break_all p body hbody (List.range nsta) w0
  rw [h2]
  by_cases ha : (List.range nsta).all p = true
  · have hw : (List.range nsta).getLast?.getD w0 = nsta - 1 := by
      rw [List.getLast?_range]
      split
      · rw [h1.resolve_left (by omega), Option.getD_none]; omega
      · rfl
    rw [h3 ha, ha, hw, if_pos rfl, beq_self_eq_true]
    exact ⟨rfl, by omega⟩
  · rw [if_neg ha, Bool.not_eq_true _ |>.mp ha]
    have : nsta ≠ 0 := fun h => ha (by rw [h]; rfl)
    exact ⟨Bool.and_false _, Or.inl (by omega)⟩

/-- one pass of the station loop entered with `ok = 1`; `a`, `b` are the two comparisons -/
theorem okStep (a b : Bool) (k : Nat) :
    (have ok := 1 * a.toNat * b.toNat;
      if (ok == 0) = true then (pure (ForInStep.done (k, ok)) : Id (ForInStep (Nat × Nat))) else pure (ForInStep.yield (k, ok)))
    = if (a && b) = true then pure (ForInStep.yield (k, 1)) else pure (ForInStep.done (k, 0)) := by
  cases a <;> cases b <;> rfl

/-! ### the kernel as nested folds over arrays (every scalar type) -/

section poly
variable {α : Type} [Add α] [Sub α] [Mul α] [Div α] [Neg α] [Flt α]

/-- the two comparisons of station `w` of samples `u`, `v` (`ok` stays 1 iff both hold) -/
def matchAt (A : Array α) (s1 nsta : Nat) (b : α) (u v w : Nat) : Bool :=
  Flt.ltb (Flt.abs (A.getD ((u * s1 + 0) * nsta + w) (c 0) - A.getD ((v * s1 + 0) * nsta + w) (c 0))) (b / c 2) &&
  Flt.ltb (Flt.abs (A.getD ((u * s1 + 1) * nsta + w) (c 0) - A.getD ((v * s1 + 1) * nsta + w) (c 0))) (b / c 2)

/-- all `nsta` stations of samples `u`, `v` within `b/2` -/
def closeIdx (A : Array α) (s1 nsta : Nat) (b : α) (u v : Nat) : Bool :=
  (List.range nsta).all (matchAt A s1 nsta b u v)

/-- one pass of the `v` loop: an alive close sample is added to `u` and marked `-1` -/
def mergeStep (cl : Nat → Nat → Bool) (u : Nat) (M : Array α) (v : Nat) : Array α :=
  if Flt.ltb (-(c 1)) (M.getD v (c 0)) = true ∧ cl u v = true then
    (M.setIfInBounds u (M.getD u (c 0) + M.getD v (c 0))).setIfInBounds v (-(c 1))
  else M

/-- one pass of the `u` loop: nothing for a marked sample, otherwise the `v` loop over the later samples -/
def sweepStep (cl : Nat → Nat → Bool) (n : Nat) (M : Array α) (u : Nat) : Array α :=
  if Flt.eqb (M.getD u (c 0)) (-(c 1)) = true then M
  else (List.range' (u + 1) (n - (u + 1))).foldl (mergeStep cl u) M

/-- the `u` loop over all `n` samples: the whole kernel, given the closeness test `cl` -/
def binKernel (cl : Nat → Nat → Bool) (n : Nat) (M : Array α) : Array α :=
  (List.range n).foldl (sweepStep cl n) M

theorem size_mergeStep (cl : Nat → Nat → Bool) (u v : Nat) (M : Array α) : (mergeStep cl u M v).size = M.size := by
  unfold mergeStep
  rw [apply_ite Array.size, Array.size_setIfInBounds, Array.size_setIfInBounds, ite_self]

theorem size_sweepStep (cl : Nat → Nat → Bool) (n u : Nat) (M : Array α) : (sweepStep cl n M u).size = M.size := by
  unfold sweepStep
  rw [apply_ite Array.size, List.foldlRecOn (motive := fun Q : Array α => Q.size = M.size) _ _ rfl
    fun Q hQ v _ => (size_mergeStep cl u v Q).trans hQ, ite_self]

theorem size_binKernel (cl : Nat → Nat → Bool) (n : Nat) (M : Array α) : (binKernel cl n M).size = M.size :=
  List.foldlRecOn (motive := fun P : Array α => P.size = M.size) _ _ rfl fun P hP u _ => (size_sweepStep cl n u P).trans hP

end poly

/-! ### over ℝ: the cells as a function `ℕ → ℝ`, alive when positive -/

/-- `mergeStep` on the cell values, with `0 <` as the test for an alive cell -/
noncomputable def mergeP (cl : Nat → Nat → Bool) (u : Nat) (f : Nat → ℝ) (v : Nat) : Nat → ℝ :=
  if 0 < f v ∧ cl u v = true then Function.update (Function.update f u (f u + f v)) v (-1) else f

/-- the `u` loop over the indices `l` on the cell values: each `u`, if alive, merges with the indices after it in `l` -/
noncomputable def sweeps (cl : Nat → Nat → Bool) (f : Nat → ℝ) : List Nat → Nat → ℝ
  | [] => f
  | u :: l => sweeps cl (if 0 < f u then l.foldl (mergeP cl u) f else f) l

/-- the alive cells among the indices `l`, each with its record -/
noncomputable def alive (rec : Nat → Record ℝ) (f : Nat → ℝ) (l : List Nat) : List (Record ℝ × ℝ) :=
  (l.filter fun i => decide (0 < f i)).map fun i => (rec i, f i)

theorem alive_cons (rec : Nat → Record ℝ) (f : Nat → ℝ) (k : Nat) (l : List Nat) :
    alive rec f (k :: l) = if 0 < f k then (rec k, f k) :: alive rec f l else alive rec f l := by
  unfold alive
  rw [List.filter_cons]
  by_cases h : 0 < f k
  · rw [if_pos h, if_pos (decide_eq_true h), List.map_cons]
  · rw [if_neg h, if_neg (mt of_decide_eq_true h)]

theorem alive_congr (rec : Nat → Record ℝ) {f g : Nat → ℝ} {l : List Nat} (h : ∀ i ∈ l, g i = f i) :
    alive rec g l = alive rec f l := by
  induction l with
  | nil => rfl
  | cons k l ih =>
    rw [alive_cons, alive_cons, h k List.mem_cons_self, ih (fun i hi => h i (List.mem_cons_of_mem _ hi))]

theorem mergeP_of_ne (cl : Nat → Nat → Bool) (u v : Nat) (f : Nat → ℝ) {i : Nat} (hu : i ≠ u) (hv : i ≠ v) :
    mergeP cl u f v i = f i := by
  unfold mergeP
  split
  · rw [Function.update_of_ne hv, Function.update_of_ne hu]
  · rfl

/-- the `v` loop for a fixed `u` over distinct indices `l ∌ u`, seen on the alive cells: cell `u` receives, in order, the
    alive cells of `l` close to it, these disappear from the alive cells of `l`, and no cell outside `l`, `u` changes -/
theorem foldl_mergeP (b : ℝ) (rec : Nat → Record ℝ) (cl : Nat → Nat → Bool) (u : Nat) (l : List Nat)
    (hcl : ∀ v ∈ l, cl u v = close b (rec u) (rec v)) (hnd : l.Nodup) (hu : u ∉ l) (f : Nat → ℝ) :
    l.foldl (mergeP cl u) f u
        = ((alive rec f l).filter fun x => close b (rec u) x.1).foldl (fun acc x => acc + x.2) (f u) ∧
      alive rec (l.foldl (mergeP cl u) f) l = (alive rec f l).filter (fun x => !close b (rec u) x.1) ∧
      ∀ i, i ∉ l → i ≠ u → l.foldl (mergeP cl u) f i = f i := by
  induction l generalizing f with
  | nil => exact ⟨rfl, rfl, fun _ _ _ => rfl⟩
  | cons v l ih =>
    have hvl : v ∉ l := (List.nodup_cons.mp hnd).1
    have huv : u ≠ v := fun h => hu (h ▸ List.mem_cons_self)
    obtain ⟨h1, h2, h3⟩ := ih (fun w hw => hcl w (List.mem_cons_of_mem _ hw)) (List.nodup_cons.mp hnd).2
      (fun h => hu (List.mem_cons_of_mem _ h)) (mergeP cl u f v)
    rw [alive_congr rec (f := f) (fun i hi => mergeP_of_ne cl u v f (fun h => hu (h ▸ List.mem_cons_of_mem _ hi))
      (fun h => hvl (h ▸ hi)))] at h1 h2
    rw [List.foldl_cons, alive_cons rec f v, alive_cons rec _ v, h1, h2, h3 v hvl huv.symm]
    refine ⟨?_, ?_, fun i hi hiu => (h3 i (fun h => hi (List.mem_cons_of_mem _ h)) hiu).trans
      (mergeP_of_ne cl u v f hiu (fun h => hi (h ▸ List.mem_cons_self)))⟩
    all_goals
      unfold mergeP
      rw [hcl v List.mem_cons_self]
      by_cases hv : 0 < f v
      · by_cases hc : close b (rec u) (rec v) = true
        · simp [hv, hc, huv]
        · simp [hv, hc]
      · simp [hv]

theorem foldl_add_pos {ι : Type} {e : ι → ℝ} (l : List ι) (a : ℝ) (ha : 0 < a) (hl : ∀ x ∈ l, 0 < e x) :
    0 < l.foldl (fun acc x => acc + e x) a := by
  rw [foldl_add_eq_add_sum]
  exact add_pos_of_pos_of_nonneg ha (List.sum_nonneg (List.forall_mem_map.2 fun x hx => (hl x hx).le))

theorem alive_pos (rec : Nat → Record ℝ) (f : Nat → ℝ) (l : List Nat) : ∀ x ∈ alive rec f l, 0 < x.2 := by
  intro x hx
  obtain ⟨i, hi, rfl⟩ := List.mem_map.mp hx
  exact of_decide_eq_true (List.mem_filter.mp hi).2

theorem sweeps_binAux (b : ℝ) (rec : Nat → Record ℝ) (cl : Nat → Nat → Bool) (l : List Nat) (f : Nat → ℝ)
    (hnd : l.Nodup) (hcl : ∀ u ∈ l, ∀ v ∈ l, cl u v = close b (rec u) (rec v)) :
    (∀ i, i ∉ l → sweeps cl f l i = f i) ∧
      ∀ fuel, (alive rec f l).length ≤ fuel → alive rec (sweeps cl f l) l = binAux b fuel (alive rec f l) := by
  induction l generalizing f with
  | nil => exact ⟨fun _ _ => rfl, fun fuel _ => (binAux_nil b fuel).symm⟩
  | cons u l ih =>
    obtain ⟨hul, hnd'⟩ := List.nodup_cons.mp hnd
    obtain ⟨h2, h1⟩ := ih (if 0 < f u then l.foldl (mergeP cl u) f else f) hnd'
      (fun a ha c hc => hcl a (List.mem_cons_of_mem _ ha) c (List.mem_cons_of_mem _ hc))
    rw [sweeps, alive_cons, alive_cons, h2 u hul]
    by_cases hu : 0 < f u
    · obtain ⟨g1, g2, g3⟩ := foldl_mergeP b rec cl u l
        (fun v hv => hcl u List.mem_cons_self v (List.mem_cons_of_mem _ hv)) hnd' hul f
      simp only [if_pos hu] at h1 h2 ⊢
      rw [g2] at h1
      refine ⟨fun i hi => (h2 i (fun h => hi (List.mem_cons_of_mem _ h))).trans
        (g3 i (fun h => hi (List.mem_cons_of_mem _ h)) (fun h => hi (h ▸ List.mem_cons_self))), fun fuel hfuel => ?_⟩
      obtain ⟨fuel, rfl⟩ : ∃ fuel', fuel = fuel' + 1 := ⟨fuel - 1, by rw [List.length_cons] at hfuel; omega⟩
      rw [if_pos (g1 ▸ foldl_add_pos _ _ hu (fun x hx => alive_pos rec f _ x (List.mem_filter.mp hx).1)),
        h1 fuel ((List.length_filter_le _ _).trans (by simpa using hfuel)), binAux_succ_cons, g1]
    · simp only [if_neg hu] at h1 h2 ⊢
      exact ⟨fun i hi => h2 i (fun h => hi (List.mem_cons_of_mem _ h)), h1⟩

/-! ### arrays and functions -/

/-- the cells of the array as a function (`0` out of range) -/
def toFun (M : Array ℝ) : Nat → ℝ := fun i => M.getD i 0

theorem toFun_setIfInBounds (M : Array ℝ) {i : Nat} (hi : i < M.size) (a : ℝ) :
    toFun (M.setIfInBounds i a) = Function.update (toFun M) i a := by
  funext j
  unfold toFun
  by_cases hj : j = i
  · rw [hj, Function.update_self, PyxLoop.getD_setIfInBounds_self hi]
  · rw [Function.update_of_ne hj, PyxLoop.getD_setIfInBounds_ne (Ne.symm hj)]

/-- every cell below `n` is `-1` (merged) or positive (alive) -/
def Signed (n : Nat) (f : Nat → ℝ) : Prop := ∀ i, i < n → f i = -1 ∨ 0 < f i

theorem Signed.update {n : Nat} {f : Nat → ℝ} (hf : Signed n f) (i : Nat) {a : ℝ} (ha : a = -1 ∨ 0 < a) :
    Signed n (Function.update f i a) := by
  intro j hj
  by_cases h : j = i
  · rw [h, Function.update_self]; exact ha
  · rw [Function.update_of_ne h]; exact hf j hj

theorem tests_of_signed {n : Nat} {M : Array ℝ} (hM : Signed n (toFun M)) {i : Nat} (hi : i < n) :
    (Flt.ltb (-(c 1)) (M.getD i (c 0)) = true ↔ 0 < toFun M i) ∧
      (Flt.eqb (M.getD i (c 0)) (-(c 1)) = true ↔ ¬ 0 < toFun M i) := by
  have h0 : ¬ (0 : ℝ) < -1 := not_lt.mpr neg_one_lt_zero.le
  simp only [flt_ltb, flt_eqb, flt_c, Nat.cast_one, Nat.cast_zero, decide_eq_true_eq]
  show (-1 < toFun M i ↔ 0 < toFun M i) ∧ (toFun M i = -1 ↔ ¬ 0 < toFun M i)
  rcases hM i hi with h | h
  · rw [h]; exact ⟨iff_of_false (lt_irrefl _) h0, iff_of_true rfl h0⟩
  · exact ⟨iff_of_true (neg_one_lt_zero.trans h) h, iff_of_false (fun e => h0 (e ▸ h)) (not_not.mpr h)⟩

theorem mergeP_signed (cl : Nat → Nat → Bool) {n u v : Nat} {f : Nat → ℝ} (hf : Signed n f) (hu : 0 < f u)
    (huv : u ≠ v) : Signed n (mergeP cl u f v) ∧ 0 < mergeP cl u f v u := by
  unfold mergeP
  split
  next h =>
    have hp := add_pos hu h.1
    exact ⟨(hf.update u (Or.inr hp)).update v (Or.inl rfl), by rwa [Function.update_of_ne huv, Function.update_self]⟩
  next => exact ⟨hf, hu⟩

theorem toFun_mergeStep (cl : Nat → Nat → Bool) {n u v : Nat} {M : Array ℝ} (hM : M.size = n) (hs : Signed n (toFun M))
    (hu : u < n) (hv : v < n) : toFun (mergeStep cl u M v) = mergeP cl u (toFun M) v := by
  have hd := and_congr_left' (c := cl u v = true) (tests_of_signed hs hv).1
  unfold mergeStep mergeP
  by_cases hc : 0 < toFun M v ∧ cl u v = true
  · rw [if_pos (hd.mpr hc), if_pos hc, toFun_setIfInBounds _ (by rwa [Array.size_setIfInBounds, hM]),
      toFun_setIfInBounds _ (hM ▸ hu)]
    simp only [flt_c, Nat.cast_one, Nat.cast_zero]
    rfl
  · rw [if_neg (fun h => hc (hd.mp h)), if_neg hc]

theorem toFun_sweepStep (cl : Nat → Nat → Bool) {n u : Nat} {P : Array ℝ} (hP : P.size = n) (hs : Signed n (toFun P))
    (hu : u < n) :
    toFun (sweepStep cl n P u)
        = (if 0 < toFun P u then (List.range' (u + 1) (n - (u + 1))).foldl (mergeP cl u) (toFun P) else toFun P) ∧
      Signed n (toFun (sweepStep cl n P u)) := by
  unfold sweepStep
  have hd := (tests_of_signed hs hu).2
  by_cases h : 0 < toFun P u
  · rw [if_neg (fun h' => hd.mp h' h), if_pos h]
    -- the `v` loop keeps the size, the sign of the cells and cell `u` alive
    obtain ⟨h1, _, h3, _⟩ := PyxLoop.foldl_sim (List.range' (u + 1) (n - (u + 1))) (mergeStep cl u) toFun (mergeP cl u)
      (fun Q => Q.size = n ∧ Signed n (toFun Q) ∧ 0 < toFun Q u)
      (fun Q v hv hQ => by
        have hv := List.mem_range'_1.mp hv
        rw [toFun_mergeStep cl hQ.1 hQ.2.1 hu (by omega)]
        exact ⟨rfl, (size_mergeStep cl u v Q).trans hQ.1, mergeP_signed cl hQ.2.1 hQ.2.2 (by omega)⟩) P ⟨hP, hs, h⟩
    exact ⟨h1, h3⟩
  · rw [if_pos (hd.mpr h), if_neg h]
    exact ⟨rfl, hs⟩

/-- `k + m = n`: the indices after `u = k` in `range' k (m + 1)` are the kernel's `range' (u + 1) (n - (u + 1))` -/
theorem toFun_foldl_sweepStep (cl : Nat → Nat → Bool) {n m k : Nat} (hk : k + m = n) {M : Array ℝ} (hM : M.size = n)
    (hs : Signed n (toFun M)) :
    toFun ((List.range' k m).foldl (sweepStep cl n) M) = sweeps cl (toFun M) (List.range' k m) := by
  induction m generalizing k M with
  | zero => rfl
  | succ m ih =>
    obtain ⟨h1, h2⟩ := toFun_sweepStep cl hM hs (u := k) (by omega)
    rw [List.range'_succ, List.foldl_cons, ih (by omega) ((size_sweepStep cl n k M).trans hM) h2, sweeps, h1,
      show n - (k + 1) = m by omega]

/-- the general form of `C20.get_multipliers_eq_bin_index`: on cells that are `-1` or positive, with a closeness test `cl` that is
    `Scatangle.close` on the records `rec`, the alive cells after the kernel are `binAux` of the alive cells before -/
theorem binKernel_eq_binAux (b : ℝ) (rec : Nat → Record ℝ) (cl : Nat → Nat → Bool) (n : Nat)
    (hcl : ∀ u v, u < n → v < n → cl u v = close b (rec u) (rec v)) (M : Array ℝ) (hM : M.size = n)
    (hs : Signed n (toFun M)) (fuel : Nat) (hfuel : (alive rec (toFun M) (List.range' 0 n)).length ≤ fuel) :
    alive rec (toFun (binKernel cl n M)) (List.range' 0 n) = binAux b fuel (alive rec (toFun M) (List.range' 0 n)) := by
  have hlt : ∀ u ∈ List.range' 0 n, u < n := fun u hu => Nat.zero_add n ▸ (List.mem_range'_1.mp hu).2
  rw [binKernel, List.range_eq_range', toFun_foldl_sweepStep cl (Nat.zero_add n) hM hs]
  exact (sweeps_binAux b rec cl _ (toFun M) List.nodup_range' fun u hu v hv => hcl u v (hlt u hu) (hlt v hv)).2 fuel hfuel

/-! ### the angle array of a record list -/

theorem flatMap_getElem? {β γ : Type} (f : β → List γ) (m : Nat) (l : List β) (h : ∀ x ∈ l, (f x).length = m)
    (i j : Nat) (hj : j < m) : (l.flatMap f)[i * m + j]? = (l[i]?).bind (fun x => (f x)[j]?) := by
  induction l generalizing i with
  | nil => rfl
  | cons x l ih =>
    have hx : (f x).length = m := h x List.mem_cons_self
    rw [List.flatMap_cons]
    cases i with
    | zero =>
      rw [Nat.zero_mul, Nat.zero_add, List.getElem?_append_left (hx ▸ hj)]
      rfl
    | succ i =>
      rw [List.getElem?_append_right (by rw [hx, Nat.succ_mul]; omega),
        show (i + 1) * m + j - (f x).length = i * m + j by rw [hx, Nat.succ_mul]; omega,
        ih (fun y hy => h y (List.mem_cons_of_mem _ hy)), List.getElem?_cons_succ]

/-- flat `(n × 2 × nsta)` array: row `[i,0,·]` the take-off angles, row `[i,1,·]` the azimuths of record `i` -/
def anglesOf (recs : List (Record ℝ × ℝ)) : Array ℝ :=
  (recs.flatMap fun p => p.1.map (fun s => s.2.2) ++ p.1.map (fun s => s.2.1)).toArray

/-- record `i` (the empty record out of range) -/
def recAt (recs : List (Record ℝ × ℝ)) (i : Nat) : Record ℝ := (recs.map (·.1)).getD i []

theorem recAt_eq (recs : List (Record ℝ × ℝ)) {i : Nat} (hi : i < recs.length) : recAt recs i = recs[i].1 := by
  unfold recAt
  rw [List.getD_eq_getElem?_getD, List.getElem?_map, List.getElem?_eq_getElem hi]; rfl

theorem anglesOf_size (recs : List (Record ℝ × ℝ)) (nsta : Nat) (hlen : ∀ p ∈ recs, p.1.length = nsta) :
    (anglesOf recs).size = recs.length * 2 * nsta := by
  unfold anglesOf
  rw [List.size_toArray, List.length_flatMap,
    List.map_congr_left (g := fun _ => nsta + nsta) (fun p hp => by
      rw [List.length_append, List.length_map, List.length_map, hlen p hp]),
    List.map_const', List.sum_replicate_nat, Nat.mul_assoc, Nat.two_mul]

theorem anglesOf_getD (recs : List (Record ℝ × ℝ)) (nsta : Nat) (hlen : ∀ p ∈ recs, p.1.length = nsta)
    (i j : Nat) (hi : i < recs.length) (hj : j < nsta) (d : Nat × ℝ × ℝ) :
    (anglesOf recs).getD ((i * 2 + 0) * nsta + j) 0 = ((recAt recs i).getD j d).2.2 ∧
    (anglesOf recs).getD ((i * 2 + 1) * nsta + j) 0 = ((recAt recs i).getD j d).2.1 := by
  have hl : (recs[i]).1.length = nsta := hlen _ (List.getElem_mem hi)
  have h := fun j' hj' => flatMap_getElem? (fun p : Record ℝ × ℝ => p.1.map (fun s => s.2.2) ++ p.1.map (fun s => s.2.1))
    (2 * nsta) recs (fun p hp => by rw [List.length_append, List.length_map, List.length_map, hlen p hp, Nat.two_mul]) i j' hj'
  have e0 : (i * 2 + 0) * nsta + j = i * (2 * nsta) + j := by ring
  have e1 : (i * 2 + 1) * nsta + j = i * (2 * nsta) + (nsta + j) := by ring
  unfold anglesOf
  rw [recAt_eq recs hi, Array.getD_eq_getD_getElem?, Array.getD_eq_getD_getElem?, List.getElem?_toArray, List.getElem?_toArray, e0, e1,
    h j (by omega), h (nsta + j) (by omega), List.getElem?_eq_getElem hi, Option.bind_some, Option.bind_some,
    List.getElem?_append_left (by rw [List.length_map, hl]; exact hj),
    List.getElem?_append_right (by rw [List.length_map, hl]; omega), List.length_map, hl, Nat.add_sub_cancel_left,
    List.getElem?_map, List.getElem?_map, List.getD_eq_getElem?_getD, List.getElem?_eq_getElem (hl ▸ hj)]
  exact ⟨rfl, rfl⟩

/-! ### the kernel's closeness test on the angle array is `Scatangle.close` -/

theorem all_congr_mem {β : Type} (l : List β) (p q : β → Bool) (h : ∀ a ∈ l, p a = q a) : l.all p = l.all q := by
  induction l with
  | nil => rfl
  | cons a l ih =>
    rw [List.all_cons, List.all_cons, h a List.mem_cons_self, ih (fun x hx => h x (List.mem_cons_of_mem _ hx))]

theorem closeIdx_anglesOf (recs : List (Record ℝ × ℝ)) (nsta : Nat) (hlen : ∀ p ∈ recs, p.1.length = nsta) (b : ℝ)
    (u v : Nat) (hu : u < recs.length) (hv : v < recs.length) :
    closeIdx (anglesOf recs) 2 nsta b u v = close b (recAt recs u) (recAt recs v) := by
  have hl : ∀ {i}, i < recs.length → (recAt recs i).length = nsta := fun hi => by
    rw [recAt_eq recs hi]; exact hlen _ (List.getElem_mem hi)
  unfold closeIdx close
  rw [zip_eq_map_range _ _ nsta (hl hu) (hl hv) (0, 0, 0) (0, 0, 0), List.all_map, List.range_eq_range']
  apply all_congr_mem
  intro w hw
  have hw' : w < nsta := by have := List.mem_range'_1.mp hw; omega
  unfold matchAt
  simp only [Function.comp, flt_ltb, flt_abs, flt_c, Nat.cast_zero, Nat.cast_ofNat]
  have hA := fun i hi => anglesOf_getD recs nsta hlen i w hi hw' (0, 0, 0)
  rw [(hA u hu).1, (hA v hv).1, (hA u hu).2, (hA v hv).2, abs_sub_comm, abs_sub_comm (List.getD (recAt recs u) w _).2.1]

theorem alive_weights (recs : List (Record ℝ × ℝ)) (hw : ∀ p ∈ recs, 0 < p.2) :
    alive (recAt recs) (toFun (recs.map (·.2)).toArray) (List.range' 0 recs.length) = recs ∧
      Signed recs.length (toFun (recs.map (·.2)).toArray) := by
  have h : ∀ i, (recAt recs i, toFun (recs.map (·.2)).toArray i) = recs.getD i ([], 0) := by
    intro i
    unfold recAt toFun
    rw [Array.getD_eq_getD_getElem?, List.getElem?_toArray, List.getD_eq_getElem?_getD, List.getD_eq_getElem?_getD,
      List.getElem?_map, List.getElem?_map]
    cases recs[i]? <;> rfl
  have hpos : ∀ i, i < recs.length → 0 < toFun (recs.map (·.2)).toArray i := fun i hi => by
    have e : recs.getD i ([], 0) = recs[i] := by rw [List.getD_eq_getElem?_getD, List.getElem?_eq_getElem hi]; rfl
    have := (Prod.mk.inj ((h i).trans e)).2
    rw [this]
    exact hw _ (List.getElem_mem hi)
  refine ⟨?_, fun i hi => Or.inr (hpos i hi)⟩
  unfold alive
  rw [List.filter_eq_self.mpr (fun i hi => decide_eq_true (hpos i (by have := List.mem_range'_1.mp hi; omega))),
    funext h, map_range_getD]

end PyxBinning
end MTfitVerif
