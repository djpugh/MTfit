import Mathlib.MeasureTheory.Measure.Lebesgue.Integral
/-
  The move-or-stay step in the abstract: a partial proposal `prop : Ω → Option Θ'` whose successes have
  the law `c · Λ` (`ev prop A`: "proposed into `A`"; a π-λ argument carries measurability and law from
  a generating π-system to all measurable sets), an independent uniform accept draw `unif`, accept iff
  `u < a θ`, otherwise stay.  `step_law` gives the law of the next state, `step_law_tendsto` its limit
  as `c → 1`.  Nothing here mentions the model.
-/
namespace MTfitVerif.StepLaw
open MeasureTheory Set
open scoped ENNReal

/-! ### the uniform accept draw -/

/-- the law of the accept draw: uniform on `[0, 1)` -/
noncomputable def unif : Measure ℝ := volume.restrict (Set.Ico 0 1)

instance : IsProbabilityMeasure unif :=
  ⟨by rw [unif, Measure.restrict_apply_univ, Real.volume_Ico, sub_zero, ENNReal.ofReal_one]⟩

theorem unif_lt {a : ℝ} (h1 : a ≤ 1) : unif {u : ℝ | u < a} = ENNReal.ofReal a := by
  change unif (Iio a) = _
  rw [unif, Measure.restrict_apply measurableSet_Iio, inter_comm, Ico_inter_Iio, min_eq_right h1,
    Real.volume_Ico, sub_zero]

/-! ### events of a partial proposal -/

section Ev
variable {Ω Θ : Type*}

/-- "the proposal succeeds with a value in `A`" -/
def ev (prop : Ω → Option Θ) (A : Set Θ) : Set Ω := {ω | ∃ θ, prop ω = some θ ∧ θ ∈ A}

theorem ev_eq_preimage (prop : Ω → Option Θ) (A : Set Θ) : ev prop A = prop ⁻¹' (some '' A) :=
  Set.ext fun _ => exists_congr fun _ => by rw [eq_comm, and_comm]

theorem mem_ev_map {α : Type*} {s : Ω → Option α} {f : α → Θ} {A : Set Θ} {ω : Ω} :
    ω ∈ ev (fun ω => (s ω).map f) A ↔ ∃ x, s ω = some x ∧ f x ∈ A := by
  simp only [ev, mem_ofPred_eq, Option.map_eq_some_iff]
  exact ⟨fun ⟨_, ⟨x, h, hx⟩, hA⟩ => ⟨x, h, hx ▸ hA⟩, fun ⟨x, h, hA⟩ => ⟨_, ⟨x, h, rfl⟩, hA⟩⟩

theorem ev_empty (prop : Ω → Option Θ) : ev prop ∅ = ∅ := by
  rw [ev_eq_preimage, image_empty, preimage_empty]

theorem ev_compl (prop : Ω → Option Θ) (A : Set Θ) : ev prop Aᶜ = ev prop univ \ ev prop A := by
  simp only [ev_eq_preimage, compl_eq_univ_sdiff, image_sdiff (Option.some_injective Θ), preimage_sdiff]

theorem ev_iUnion (prop : Ω → Option Θ) (A : ℕ → Set Θ) : ev prop (⋃ i, A i) = ⋃ i, ev prop (A i) := by
  simp only [ev_eq_preimage, image_iUnion, preimage_iUnion]

theorem ev_mono (prop : Ω → Option Θ) {A B : Set Θ} (h : A ⊆ B) : ev prop A ⊆ ev prop B := by
  simp only [ev_eq_preimage]
  exact preimage_mono (image_mono h)

theorem ev_disjoint (prop : Ω → Option Θ) {A B : Set Θ} (h : Disjoint A B) :
    Disjoint (ev prop A) (ev prop B) := by
  simp only [ev_eq_preimage]
  exact ((disjoint_image_iff (Option.some_injective Θ)).2 h).preimage prop

/-! ### from a π-system to all measurable sets -/

/-- `C` presents the σ-algebra of `α` for a π-λ argument: a π-system that generates it and contains
    `univ` (which makes it countably spanning, so that the boxes of two such systems are one again) -/
structure GenPiSystem {α : Type*} [m : MeasurableSpace α] (C : Set (Set α)) : Prop where
  gen : m = MeasurableSpace.generateFrom C
  pi : IsPiSystem C
  univ_mem : univ ∈ C

theorem GenPiSystem.measurableSet {α : Type*} [MeasurableSpace α] :
    GenPiSystem {s : Set α | MeasurableSet s} :=
  ⟨MeasurableSpace.generateFrom_measurableSet.symm, MeasurableSpace.isPiSystem_measurableSet,
    MeasurableSet.univ⟩

theorem GenPiSystem.isCountablySpanning {α : Type*} [MeasurableSpace α] {C : Set (Set α)}
    (h : GenPiSystem C) : IsCountablySpanning C :=
  ⟨fun _ => univ, fun _ => h.univ_mem, iUnion_const _⟩

theorem GenPiSystem.prod {α β : Type*} [MeasurableSpace α] [MeasurableSpace β] {C : Set (Set α)}
    {D : Set (Set β)} (hC : GenPiSystem C) (hD : GenPiSystem D) :
    GenPiSystem (image2 (· ×ˢ ·) C D) :=
  ⟨(generateFrom_eq_prod hC.gen.symm hD.gen.symm hC.isCountablySpanning hD.isCountablySpanning).symm,
    hC.pi.prod hD.pi, ⟨univ, hC.univ_mem, univ, hD.univ_mem, univ_prod_univ⟩⟩

variable [MeasurableSpace Ω] [MeasurableSpace Θ]

theorem ev_law_of_piSystem (μ : Measure Ω) [IsFiniteMeasure μ] (prop : Ω → Option Θ)
    (Λ : Measure Θ) [IsProbabilityMeasure Λ] (c : ℝ≥0∞) {C : Set (Set Θ)} (hC : GenPiSystem C)
    (h : ∀ A ∈ C, MeasurableSet (ev prop A) ∧ μ (ev prop A) = c * Λ A) :
    ∀ A, MeasurableSet A → MeasurableSet (ev prop A) ∧ μ (ev prop A) = c * Λ A := by
  have hU := h univ hC.univ_mem
  have hc : c ≠ ⊤ := by
    rw [← mul_one c, ← measure_univ (μ := Λ), ← hU.2]
    exact measure_ne_top μ _
  intro A hA
  induction A, hA using MeasurableSpace.induction_on_inter hC.gen hC.pi with
  | empty => rw [ev_empty, measure_empty, measure_empty, mul_zero]; exact ⟨MeasurableSet.empty, rfl⟩
  | basic t ht => exact h t ht
  | compl t htm ih =>
    rw [ev_compl]
    refine ⟨hU.1.diff ih.1, ?_⟩
    rw [measure_sdiff (ev_mono prop (subset_univ t)) ih.1.nullMeasurableSet (measure_ne_top μ _),
      hU.2, ih.2, measure_compl htm (measure_ne_top Λ _), ENNReal.mul_sub (fun _ _ => hc)]
  | iUnion f hd hfm ih =>
    rw [ev_iUnion]
    refine ⟨MeasurableSet.iUnion fun i => (ih i).1, ?_⟩
    rw [measure_iUnion (fun i j hij => ev_disjoint prop (hd hij)) (fun i => (ih i).1),
      measure_iUnion hd hfm, ← ENNReal.tsum_mul_left]
    exact tsum_congr fun i => (ih i).2
end Ev

/-! ### the abstract step law -/

section Step
variable {Ω Θ : Type*} [MeasurableSpace Ω] [MeasurableSpace Θ]

/-- total version of the proposal: the value on success, the current state otherwise -/
def getOr (prop : Ω → Option Θ) (ξ : Θ) (ω : Ω) : Θ := (prop ω).getD ξ

omit [MeasurableSpace Ω] [MeasurableSpace Θ] in
theorem getOr_preimage (prop : Ω → Option Θ) (ξ : Θ) (A : Set Θ) :
    getOr prop ξ ⁻¹' A = ev prop A ∪ ((ev prop univ)ᶜ ∩ {_ω | ξ ∈ A}) := by
  ext ω
  simp only [mem_preimage, mem_union, mem_inter_iff, mem_compl_iff, mem_ofPred_eq, getOr, ev,
    mem_univ, and_true]
  cases prop ω with
  | none => simp only [Option.getD_none, reduceCtorEq, false_and, exists_false, not_false_eq_true,
      true_and, false_or]
  | some θ => simp only [Option.getD_some, Option.some.injEq, exists_eq_left', exists_eq',
      not_true_eq_false, false_and, or_false]

theorem measurable_getOr (prop : Ω → Option Θ) (ξ : Θ)
    (hm : ∀ A, MeasurableSet A → MeasurableSet (ev prop A)) : Measurable (getOr prop ξ) := by
  intro A hA
  rw [getOr_preimage]
  exact (hm A hA).union ((hm univ MeasurableSet.univ).compl.inter (MeasurableSet.const _))

omit [MeasurableSpace Ω] [MeasurableSpace Θ] in
theorem ev_eq_inter (prop : Ω → Option Θ) (ξ : Θ) (A : Set Θ) :
    ev prop A = ev prop univ ∩ getOr prop ξ ⁻¹' A := by
  ext ω
  simp only [mem_inter_iff, mem_preimage, getOr, ev, mem_ofPred_eq, mem_univ, and_true]
  cases prop ω with
  | none => simp only [reduceCtorEq, false_and, exists_false]
  | some θ => simp only [Option.some.injEq, exists_eq_left', exists_eq', Option.getD_some, true_and]

theorem map_getOr_eq (μ : Measure Ω) (prop : Ω → Option Θ) (ξ : Θ) {Λ : Measure Θ} {c : ℝ≥0∞}
    (hlaw : ∀ A, MeasurableSet A → MeasurableSet (ev prop A) ∧ μ (ev prop A) = c * Λ A) :
    Measure.map (getOr prop ξ) (μ.restrict (ev prop univ)) = c • Λ := by
  have hΦ := measurable_getOr prop ξ fun A hA => (hlaw A hA).1
  ext A hA
  rw [Measure.map_apply hΦ hA, Measure.restrict_apply (hΦ hA), inter_comm, ← ev_eq_inter,
    (hlaw A hA).2, Measure.smul_apply, smul_eq_mul]

/-- "the proposal succeeds with a value in `B` and is accepted" -/
def accSet (prop : Ω → Option Θ) (a : Θ → ℝ) (B : Set Θ) : Set (Ω × ℝ) :=
  {p | ∃ θ, prop p.1 = some θ ∧ θ ∈ B ∧ p.2 < a θ}

omit [MeasurableSpace Ω] [MeasurableSpace Θ] in
theorem accSet_eq (prop : Ω → Option Θ) (ξ : Θ) (a : Θ → ℝ) (B : Set Θ) :
    accSet prop a B = (ev prop B ×ˢ univ) ∩ {p : Ω × ℝ | p.2 < a (getOr prop ξ p.1)} := by
  ext ⟨ω, u⟩
  simp only [accSet, mem_ofPred_eq, mem_inter_iff, mem_prod, mem_univ, and_true, ev]
  constructor
  · rintro ⟨θ, h, hB, hu⟩
    exact ⟨⟨θ, h, hB⟩, by rwa [getOr, h]⟩
  · rintro ⟨⟨θ, h, hB⟩, hu⟩
    exact ⟨θ, h, hB, by rwa [getOr, h] at hu⟩

theorem measurableSet_accSet (prop : Ω → Option Θ) (ξ : Θ) {a : Θ → ℝ} (ha : Measurable a)
    (hm : ∀ A, MeasurableSet A → MeasurableSet (ev prop A)) {B : Set Θ} (hB : MeasurableSet B) :
    MeasurableSet (accSet prop a B) := by
  rw [accSet_eq prop ξ]
  refine ((hm B hB).prod MeasurableSet.univ).inter ?_
  exact measurableSet_lt measurable_snd
    (ha.comp ((measurable_getOr prop ξ hm).comp measurable_fst))

/-- **probability of "proposed into `B` and accepted"**: Fubini with the uniform draw -/
theorem accSet_measure (μ : Measure Ω) [SFinite μ] (prop : Ω → Option Θ) (ξ : Θ) {a : Θ → ℝ}
    (ha : Measurable a) (ha1 : ∀ θ, a θ ≤ 1) {Λ : Measure Θ} {c : ℝ≥0∞}
    (hlaw : ∀ A, MeasurableSet A → MeasurableSet (ev prop A) ∧ μ (ev prop A) = c * Λ A)
    {B : Set Θ} (hB : MeasurableSet B) :
    (μ.prod unif) (accSet prop a B) = c * ∫⁻ θ in B, ENNReal.ofReal (a θ) ∂Λ := by
  have hm := fun A hA => (hlaw A hA).1
  have hΦ := measurable_getOr prop ξ hm
  rw [Measure.prod_apply (measurableSet_accSet prop ξ ha hm hB)]
  have hsec : ∀ ω, unif (Prod.mk ω ⁻¹' accSet prop a B) =
      (ev prop B).indicator (fun ω => ENNReal.ofReal (a (getOr prop ξ ω))) ω := by
    intro ω
    rw [accSet_eq prop ξ, preimage_inter]
    by_cases hω : ω ∈ ev prop B
    · rw [indicator_of_mem hω, mk_preimage_prod_right hω, univ_inter]
      exact unif_lt (ha1 (getOr prop ξ ω))
    · rw [indicator_of_notMem hω, mk_preimage_prod_right_eq_empty hω, empty_inter, measure_empty]
  simp_rw [hsec]
  rw [lintegral_indicator (hm B hB), ev_eq_inter prop ξ B, inter_comm,
    ← Measure.restrict_restrict (hΦ hB), ← smul_eq_mul, ← lintegral_smul_measure,
    ← Measure.restrict_smul, ← map_getOr_eq μ prop ξ hlaw, Measure.restrict_map hΦ hB,
    lintegral_map ha.ennreal_ofReal hΦ]

variable {Θ' : Type*} [MeasurableSpace Θ']

/-- **The abstract step law.**  `prop` is a partial proposal on the probability space `(Ω, μ)` with
    values in `Θ'`, which `ι` embeds in the state space `Θ` (`ι = id` for a move within a model,
    `g ↦ inr (d, g)` for the up-jump); "proposed into `A`" is a measurable event of probability
    `c · Λ A`; `u` is an independent uniform draw on `[0,1)`; the step moves to `ι θ` iff `u < a θ`
    and stays at `ξ` otherwise (also when the proposal fails).  Then the next state is in `B` with
    probability `c ∫_{ι⁻¹ B} a dΛ + (1 − c ∫ a dΛ) · 1_B(ξ)`. -/
theorem step_law [Nonempty Θ'] (μ : Measure Ω) [IsProbabilityMeasure μ] (prop : Ω → Option Θ')
    {ι : Θ' → Θ} (hι : Measurable ι) (ξ : Θ) {a : Θ' → ℝ} (ha : Measurable a) (ha1 : ∀ θ, a θ ≤ 1)
    (Λ : Measure Θ') (c : ℝ≥0∞)
    (hlaw : ∀ A, MeasurableSet A → MeasurableSet (ev prop A) ∧ μ (ev prop A) = c * Λ A)
    (nxt : Ω → ℝ → Θ)
    (hsome : ∀ ω θ, prop ω = some θ → ∀ u, nxt ω u = if u < a θ then ι θ else ξ)
    (hnone : ∀ ω, prop ω = none → ∀ u, nxt ω u = ξ)
    {B : Set Θ} (hB : MeasurableSet B) :
    (μ.prod unif) {p : Ω × ℝ | nxt p.1 p.2 ∈ B} =
      c * ∫⁻ θ in ι ⁻¹' B, ENNReal.ofReal (a θ) ∂Λ +
        (1 - c * ∫⁻ θ, ENNReal.ofReal (a θ) ∂Λ) * B.indicator 1 ξ := by
  have θ₀ : Θ' := Classical.arbitrary Θ'
  have hm := fun A hA => (hlaw A hA).1
  have hset : {p : Ω × ℝ | nxt p.1 p.2 ∈ B} =
      accSet prop a (ι ⁻¹' B) ∪ ((accSet prop a univ)ᶜ ∩ {_p | ξ ∈ B}) := by
    ext ⟨ω, u⟩
    simp only [mem_ofPred_eq, mem_union, mem_inter_iff, mem_compl_iff, accSet, mem_univ, true_and,
      mem_preimage]
    cases h : prop ω with
    | none => simp only [hnone ω h u, reduceCtorEq, false_and, exists_false, not_false_eq_true,
        true_and, false_or]
    | some θ =>
      simp only [hsome ω θ h u, Option.some.injEq, exists_eq_left']
      by_cases hu : u < a θ
      · simp only [hu, if_true, and_true, not_true_eq_false, false_and, or_false]
      · simp only [hu, if_false, and_false, not_false_eq_true, true_and, false_or]
  have hAU := measurableSet_accSet prop θ₀ ha hm MeasurableSet.univ
  have hdisj : Disjoint (accSet prop a (ι ⁻¹' B)) ((accSet prop a univ)ᶜ ∩ {_p | ξ ∈ B}) :=
    Set.disjoint_left.mpr fun p ⟨θ, h, _, hu⟩ ⟨hn, _⟩ => hn ⟨θ, h, mem_univ _, hu⟩
  rw [hset, measure_union hdisj (hAU.compl.inter (MeasurableSet.const _)),
    accSet_measure μ prop θ₀ ha ha1 hlaw (hι hB)]
  congr 1
  by_cases hξ : ξ ∈ B
  · rw [show {_p : Ω × ℝ | ξ ∈ B} = univ from eq_univ_of_forall fun _ => hξ, inter_univ,
      prob_compl_eq_one_sub hAU, accSet_measure μ prop θ₀ ha ha1 hlaw MeasurableSet.univ,
      Measure.restrict_univ, indicator_of_mem hξ, Pi.one_apply, mul_one]
  · rw [show {_p : Ω × ℝ | ξ ∈ B} = ∅ from eq_empty_of_forall_notMem fun _ => hξ, inter_empty,
      measure_empty, indicator_of_notMem hξ, mul_zero]

open Filter Topology in
/-- the finite-stream step law is continuous in the probability `c` that the proposal is made -/
theorem step_law_tendsto {Θ' Θ : Type*} [MeasurableSpace Θ'] (Λ : Measure Θ') [IsFiniteMeasure Λ]
    {a : Θ' → ℝ} (ha1 : ∀ θ, a θ ≤ 1) {c : ℕ → ℝ≥0∞} (hc : Tendsto c atTop (𝓝 1)) (S : Set Θ')
    (B : Set Θ) (ξ : Θ) :
    Tendsto (fun n => c n * ∫⁻ θ in S, ENNReal.ofReal (a θ) ∂Λ +
        (1 - c n * ∫⁻ θ, ENNReal.ofReal (a θ) ∂Λ) * B.indicator 1 ξ) atTop
      (𝓝 (∫⁻ θ in S, ENNReal.ofReal (a θ) ∂Λ +
        (1 - ∫⁻ θ, ENNReal.ofReal (a θ) ∂Λ) * B.indicator 1 ξ)) := by
  -- the integrals are at most `Λ univ`
  have hI : ∀ s : Set Θ', ∫⁻ θ in s, ENNReal.ofReal (a θ) ∂Λ ≠ ⊤ := fun s =>
    ((setLIntegral_mono measurable_const fun θ _ => ENNReal.ofReal_le_one.mpr (ha1 θ)).trans_lt
      (by rw [setLIntegral_one]; exact measure_lt_top Λ s)).ne
  have hJ := hI univ
  rw [Measure.restrict_univ] at hJ
  have hk : B.indicator (1 : Θ → ℝ≥0∞) ξ ≠ ⊤ := by
    by_cases h : ξ ∈ B <;> simp [h]
  have t1 := ENNReal.Tendsto.mul_const hc (Or.inr (hI S))
  have t2 := ENNReal.Tendsto.mul_const hc (Or.inr hJ)
  rw [one_mul] at t1 t2
  exact t1.add (ENNReal.Tendsto.mul_const
    (ENNReal.Tendsto.sub tendsto_const_nhds t2 (Or.inl ENNReal.one_ne_top)) (Or.inr hk))

end Step

end MTfitVerif.StepLaw
