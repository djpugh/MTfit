import MTfitVerif.Real.StationaryModelLemmas
import MTfitVerif.Real.TransDLemmas
import MTfitVerif.Real.ProposalLemmas
/-
  Helper lemmas for C07 (trans-dimensional half, model instance): coordinates of the two models
  (double couple: orientation `(κ, h, σ)`; full tensor: orientation and `(γ, δ)`), the proposal of
  `transDSample` in these coordinates, normalisation and measurability of the proposal densities
  and of the jump acceptances.
-/
namespace MTfitVerif.TransD
open LogP Acceptance Stationary Real MeasureTheory

/-- orientation coordinates: strike, cos(dip), slip — the state of the double-couple model -/
abbrev Ori := ℝ × ℝ × ℝ
/-- source-type coordinates: lune longitude and latitude -/
abbrev Lune := ℝ × ℝ

/-- the double-couple state with orientation `d` (`γ = δ = 0`) -/
def tapeDC (d : Ori) : Tape ℝ := ⟨0, 0, d.1, d.2.1, d.2.2⟩
/-- the full-tensor state with orientation `m.1` and source type `m.2` -/
def tapeMT (m : Ori × Lune) : Tape ℝ := ⟨m.2.1, m.2.2, m.1.1, m.1.2.1, m.1.2.2⟩

def coordDC (d : Ori) : Coord := (0, 0, d.1, d.2.1, d.2.2)
def coordMT (m : Ori × Lune) : Coord := (m.2.1, m.2.2, m.1.1, m.1.2.1, m.1.2.2)

theorem toTape_coordDC (d : Ori) : toTape (coordDC d) = tapeDC d := rfl
theorem toTape_coordMT (m : Ori × Lune) : toTape (coordMT m) = tapeMT m := rfl

theorem measurable_coordDC : Measurable coordDC := by unfold coordDC; fun_prop
theorem measurable_coordMT : Measurable coordMT := by unfold coordMT; fun_prop

/-! ### `transDSample` in these coordinates -/

/-- a jump proposed from the full-tensor state `m` is the double-couple state with the same
    orientation -/
theorem transDSample_down (pj : ℝ) (w : Widths ℝ) (m : Ori × Lune) {u : ℝ} (hu : u ≤ pj)
    (zs : List ℝ) :
    Proposal.transDSample false pj w (tapeMT m) u zs = some (tapeDC m.1, true, zs) :=
  Proposal.transDSample_jump_down hu

/-- a jump proposed from the double-couple state `d` keeps the orientation and takes `(γ, δ)`
    from the balancing draw -/
theorem transDSample_up (pj : ℝ) (w : Widths ℝ) (d : Ori) {u : ℝ} (hu : u ≤ pj) (zs : List ℝ) :
    Proposal.transDSample true pj w (tapeDC d) u zs
      = (Proposal.jumpDraw w zs).map fun r => (tapeMT (d, (r.1, r.2.1)), true, r.2.2) :=
  Proposal.transDSample_jump_up hu

/-- otherwise an ordinary shift within the current model -/
theorem transDSample_shift (dc : Bool) (pj : ℝ) (w : Widths ℝ) (ξ : Tape ℝ) {u : ℝ} (hu : pj < u)
    (zs : List ℝ) :
    Proposal.transDSample dc pj w ξ u zs
      = (Proposal.shiftSample dc w ξ zs).map fun r => (r.1, false, r.2) :=
  Proposal.transDSample_no_jump dc hu.not_ge

/-- reference measure on the orientation: any s-finite `μκ` on strike, Lebesgue on `[0, 1]` for
    cos(dip) and on `[-π/2, π/2]` for slip -/
noncomputable def oriMeasure (μκ : Measure ℝ) : Measure Ori :=
  μκ.prod ((volume.restrict (Set.Icc (0:ℝ) 1)).prod (volume.restrict (Set.Icc (-(π / 2)) (π / 2))))

instance (μκ : Measure ℝ) [SFinite μκ] : SFinite (oriMeasure μκ) := by
  unfold oriMeasure; infer_instance

/-- Lebesgue measure on the lune box `[-π/6, π/6] × [-π/2, π/2]` -/
noncomputable def luneBox : Measure Lune :=
  (volume.restrict (Set.Icc (-(π / 6)) (π / 6))).prod (volume.restrict (Set.Icc (-(π / 2)) (π / 2)))

instance : SFinite luneBox := by unfold luneBox; infer_instance

theorem pDens_lunePair {sg sd : ℝ} (hg : 0 < sg) (hd : 0 < sd) (mg md : ℝ) :
    PDens luneBox fun g => ENNReal.ofReal (truncTerm g.1 mg sg (-(π / 6)) (π / 6))
      * ENNReal.ofReal (truncTerm g.2 md sd (-(π / 2)) (π / 2)) :=
  -- `(… :)` as in `pDens_oriFactor`
  ((pDens_truncTerm mg hg neg_pi_div_six_lt).prod
    (pDens_truncTerm md hd neg_pi_div_two_lt) :)

theorem lintegral_proposal_DC (w : Widths ℝ) (hh : 0 < w.h) (hs : 0 < w.sigma) (μκ : Measure ℝ)
    [SFinite μκ] (k : ℝ → ℝ → ℝ) (hkm : Measurable (Function.uncurry k))
    (hkn : ∀ a, ∫⁻ b, ENNReal.ofReal (k a b) ∂μκ = 1) (x : Ori) :
    ∫⁻ y, ENNReal.ofReal (transPdf true w (tapeDC y) (tapeDC x) * k x.1 y.1) ∂(oriMeasure μκ)
      = 1 := by
  rw [← (pDens_oriFactor w hh hs hkm hkn x).2]
  refine lintegral_congr fun y => ?_
  rw [transPdf_true, ENNReal.ofReal_mul (mul_nonneg (truncTerm_pos' _ _ hh one_pos).le
      (truncTerm_pos' _ _ hs neg_pi_div_two_lt).le),
    ENNReal.ofReal_mul (truncTerm_pos' _ _ hh one_pos).le, mul_comm]
  rfl

theorem lintegral_proposal_MT (w : Widths ℝ)
    (hw : 0 < w.gamma ∧ 0 < w.delta ∧ 0 < w.h ∧ 0 < w.sigma) (μκ : Measure ℝ) [SFinite μκ]
    (k : ℝ → ℝ → ℝ) (hkm : Measurable (Function.uncurry k))
    (hkn : ∀ a, ∫⁻ b, ENNReal.ofReal (k a b) ∂μκ = 1) (x : Ori × Lune) :
    ∫⁻ y, ENNReal.ofReal (transPdf false w (tapeMT y) (tapeMT x) * k x.1.1 y.1.1)
      ∂((oriMeasure μκ).prod luneBox) = 1 := by
  rw [← ((pDens_oriFactor w hw.2.2.1 hw.2.2.2 hkm hkn x.1).prod
    (pDens_lunePair hw.1 hw.2.1 x.2.1 x.2.2)).2]
  refine lintegral_congr fun y => ?_
  rw [ofReal_transPdf_mul false w hw]
  simp only [luneFactor, tapeMT, Bool.false_eq_true, if_false]
  ring

theorem measurable_transPdf_DC (w : Widths ℝ) :
    Measurable fun p : Ori × Ori => transPdf true w (tapeDC p.2) (tapeDC p.1) := by
  -- elaborated against the goal, the unifier unfolds `transPdf` and does not come back
  have h := (measurable_transPdf_coord true w).comp (measurable_coordDC.prodMap measurable_coordDC)
  exact h

theorem measurable_transPdf_MT (w : Widths ℝ) :
    Measurable fun p : (Ori × Lune) × (Ori × Lune) =>
      transPdf false w (tapeMT p.2) (tapeMT p.1) := by
  have h := (measurable_transPdf_coord false w).comp (measurable_coordMT.prodMap measurable_coordMT)
  exact h

theorem measurable_jumpQ_MT (w : Widths ℝ) : Measurable fun m : Ori × Lune => jumpQ w (tapeMT m) := by
  have h1 : Measurable fun m : Ori × Lune => (m.2.1, (c 0 : ℝ)) := by fun_prop
  have h2 : Measurable fun m : Ori × Lune => (m.2.2, (c 0 : ℝ)) := by fun_prop
  have g1 := (measurable_gaussPdf w.gammaDc).comp h1
  have g2 := (measurable_gaussPdf w.deltaDc).comp h2
  exact (g1.mul g2).div_const w.propNorm

theorem jumpQ_tapeMT (w : Widths ℝ) (d d' : Ori) (g : Lune) :
    jumpQ w (tapeMT (d, g)) = jumpQ w (tapeMT (d', g)) := rfl

/-! ### measurability of the jump acceptances -/

section JumpMeasurable
variable (prior : Bool → Tape ℝ → ℝ) (w : Widths ℝ) (L : Tape ℝ → LogP ℝ) (p : ℝ)

/-- measurability of the up-jump acceptance in the coordinates of the proposed full-tensor state
    (which contain the current double-couple state) -/
theorem measurable_acceptJumpUp (hpD : Measurable fun d : Ori => prior true (tapeDC d))
    (hpM : Measurable fun m : Ori × Lune => prior false (tapeMT m))
    (hLD : Measurable fun d : Ori => toProb (L (tapeDC d)))
    (hLM : Measurable fun m : Ori × Lune => toProb (L (tapeMT m))) :
    Measurable fun m : Ori × Lune =>
      acceptJumpUp prior w (tapeDC m.1) (tapeMT m) p (L (tapeDC m.1)) (L (tapeMT m)) := by
  simp only [acceptJumpUp_eq_accept]
  exact measurable_accept_some
    ((hpM.div ((measurable_jumpQ_MT w).mul (hpD.comp measurable_fst))).mul measurable_const)
    (hLD.comp measurable_fst) hLM

theorem measurable_acceptJumpDown (hpD : Measurable fun d : Ori => prior true (tapeDC d))
    (hpM : Measurable fun m : Ori × Lune => prior false (tapeMT m))
    (hLD : Measurable fun d : Ori => toProb (L (tapeDC d)))
    (hLM : Measurable fun m : Ori × Lune => toProb (L (tapeMT m))) :
    Measurable fun m : Ori × Lune =>
      acceptJumpDown prior w (tapeMT m) (tapeDC m.1) p (L (tapeMT m)) (L (tapeDC m.1)) := by
  simp only [acceptJumpDown_eq_accept]
  exact measurable_accept_some
    ((((measurable_jumpQ_MT w).mul (hpD.comp measurable_fst)).div hpM).mul measurable_const)
    hLM (hLD.comp measurable_fst)

end JumpMeasurable

end MTfitVerif.TransD
