import MTfitVerif.Real.PyxLoopLemmas
/-
  Helper lemmas for `Props/C20Misc.lean`: folds that read a cell, change it and write it back
  (`ln_combine`, `ln_multipliers` of cprobability.pyx), the `w`-outer / `v`-inner loop nest over such cells, and list folds
  over `List.range n` that read a list by index (`c_ln_normalise`, `c_dkl`, `c_dkl_uniform`).
  Core/Std only; everything is polymorphic in the scalar type.
-/
namespace MTfitVerif
namespace PyxMisc
open PyxLoop

variable {α : Type}

/-! ### folds of read-modify-write steps on array cells -/

theorem getD_foldl_modify {ι : Type} (l : List ι) (idx : ι → Nat) (g : ι → α → α) (d : α) (P : Array α) (x : ι)
    (hx : x ∈ l) (hnd : (l.map idx).Nodup) (hb : idx x < P.size) :
    (l.foldl (fun P y => P.setIfInBounds (idx y) (g y (P.getD (idx y) d))) P).getD (idx x) d
      = g x (P.getD (idx x) d) := by
  -- `x` is the only element that writes to cell `idx x`: split the list there
  obtain ⟨l₁, l₂, rfl⟩ := List.append_of_mem hx
  obtain ⟨-, hnd₂, hnd₁⟩ := List.nodup_append.mp (List.map_append ▸ hnd)
  have h₁ : ∀ z ∈ l₁, idx z ≠ idx x := fun z hz => hnd₁ _ (List.mem_map_of_mem hz) _ List.mem_cons_self
  have h₂ : ∀ z ∈ l₂, idx z ≠ idx x := fun z hz e => (List.nodup_cons.mp hnd₂).1 (e ▸ List.mem_map_of_mem hz)
  rw [List.foldl_append, List.foldl_cons,
    getD_foldl_write_of_not_mem _ idx (fun y P => g y (P.getD (idx y) d)) _ d _ h₂,
    getD_setIfInBounds_self (by rw [size_foldl_write _ idx (fun y P => g y (P.getD (idx y) d))]; exact hb),
    getD_foldl_write_of_not_mem _ idx (fun y P => g y (P.getD (idx y) d)) _ d _ h₁]

/-! ### the `w`-outer / `v`-inner loop nest that modifies cell `v * wmax + w` -/

/-- cell `v * wmax + w` is replaced by `G v w` of its content, for `w` (outer loop) and `v` (inner loop) in range -/
def modifyCells (G : Nat → Nat → α → α) (d : α) (vmax wmax : Nat) (P : Array α) : Array α :=
  (List.range wmax).foldl
    (fun P w => (List.range vmax).foldl
      (fun P v => P.setIfInBounds (v * wmax + w) (G v w (P.getD (v * wmax + w) d))) P) P

theorem modifyCells_eq_flat (G : Nat → Nat → α → α) (d : α) (vmax wmax : Nat) (P : Array α) :
    modifyCells G d vmax wmax P
      = ((List.range wmax).flatMap (fun w => (List.range vmax).map (fun v => (v, w)))).foldl
          (fun P y => P.setIfInBounds (y.1 * wmax + y.2) (G y.1 y.2 (P.getD (y.1 * wmax + y.2) d))) P := by
  simp only [modifyCells, List.foldl_flatMap, List.foldl_map]

theorem size_modifyCells (G : Nat → Nat → α → α) (d : α) (vmax wmax : Nat) (P : Array α) :
    (modifyCells G d vmax wmax P).size = P.size := by
  rw [modifyCells_eq_flat]
  exact size_foldl_write _ (fun y : Nat × Nat => y.1 * wmax + y.2)
    (fun y P => G y.1 y.2 (P.getD (y.1 * wmax + y.2) d)) P

theorem cells_nodup (vmax wmax : Nat) :
    (((List.range wmax).flatMap (fun w => (List.range vmax).map (fun v => (v, w)))).map
      (fun y : Nat × Nat => y.1 * wmax + y.2)).Nodup := by
  unfold List.Nodup
  rw [List.pairwise_map, List.pairwise_flatMap]
  refine ⟨fun w hw => ?_, ?_⟩
  · rw [List.pairwise_map]
    refine List.Pairwise.imp_of_mem ?_ (List.nodup_range (n := vmax))
    intro a b _ _ hab h
    have hw' : w < wmax := List.mem_range.mp hw
    exact hab (cell_inj hw' hw' h).1
  · refine List.Pairwise.imp_of_mem ?_ (List.nodup_range (n := wmax))
    intro a b ha hb hab y hy y' hy' h
    simp only [List.mem_map, List.mem_range] at hy hy'
    obtain ⟨_, _, rfl⟩ := hy
    obtain ⟨_, _, rfl⟩ := hy'
    exact hab (cell_inj (List.mem_range.mp hb) (List.mem_range.mp ha) h).2

theorem getD_modifyCells (G : Nat → Nat → α → α) (d : α) (vmax wmax : Nat) (P : Array α)
    (hsize : vmax * wmax ≤ P.size) {v w : Nat} (hv : v < vmax) (hw : w < wmax) :
    (modifyCells G d vmax wmax P).getD (v * wmax + w) d = G v w (P.getD (v * wmax + w) d) := by
  rw [modifyCells_eq_flat]
  exact getD_foldl_modify _ (fun y : Nat × Nat => y.1 * wmax + y.2) (fun y => G y.1 y.2) d P (v, w)
    (mem_cells.mpr ⟨hv, hw⟩) (cells_nodup vmax wmax) (Nat.lt_of_lt_of_le (cell_lt hv hw) hsize)

/-- the cells from `vmax * wmax` on are not touched -/
theorem getD_modifyCells_of_le (G : Nat → Nat → α → α) (d : α) (vmax wmax : Nat) (P : Array α) {j : Nat}
    (hj : vmax * wmax ≤ j) : (modifyCells G d vmax wmax P).getD j d = P.getD j d := by
  rw [modifyCells_eq_flat]
  exact getD_foldl_write_of_not_mem _ (fun y : Nat × Nat => y.1 * wmax + y.2)
    (fun y P => G y.1 y.2 (P.getD (y.1 * wmax + y.2) d)) P d j
    fun _ hy => Nat.ne_of_lt (Nat.lt_of_lt_of_le (cell_lt (mem_cells.mp hy).1 (mem_cells.mp hy).2) hj)

/-! ### loops over `range n` that read a list of length `n` by index -/

theorem foldl_range_getD {β : Type} (l : List α) (d : α) (f : β → α → β) (a : β) :
    (List.range l.length).foldl (fun s i => f s (l.getD i d)) a = l.foldl f a := by
  rw [List.range_eq_range', ← List.foldl_map (f := fun i => l.getD i d) (g := f), PyxBinning.map_range_getD]

theorem foldl_range_getD₂ {β γ : Type} (l : List α) (m : List γ) (d : α) (e : γ) (h : m.length = l.length)
    (f : β → α × γ → β) (a : β) :
    (List.range l.length).foldl (fun s i => f s (l.getD i d, m.getD i e)) a = (l.zip m).foldl f a := by
  rw [PyxBinning.zip_eq_map_range l m l.length rfl h d e, List.foldl_map, List.range_eq_range']

/-- the in-place loop `for i in range(len(l)): l[i] = g(l[i])`, started at position `pre.length` so that the induction goes through -/
theorem foldl_range'_set_map (g : α → α) (d : α) (pre l : List α) :
    (List.range' pre.length l.length).foldl (fun L i => L.set i (g (L.getD i d))) (pre ++ l) = pre ++ l.map g := by
  induction l generalizing pre with
  | nil => simp
  | cons x l ih =>
    rw [List.length_cons, List.range'_succ, List.foldl_cons]
    have h1 : (pre ++ x :: l).set pre.length (g ((pre ++ x :: l).getD pre.length d)) = (pre ++ [g x]) ++ l := by
      simp [List.getD_eq_getElem?_getD]
    rw [h1]
    have h2 := ih (pre ++ [g x])
    rw [List.length_append, List.length_singleton] at h2
    rw [h2]
    simp

theorem foldl_range_set_map (g : α → α) (d : α) (l : List α) :
    (List.range l.length).foldl (fun L i => L.set i (g (L.getD i d))) l = l.map g := by
  have h := foldl_range'_set_map g d [] l
  simpa [List.range_eq_range'] using h

end PyxMisc
end MTfitVerif
