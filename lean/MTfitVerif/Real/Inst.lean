import MTfitVerif.Model.Flt
import MTfitVerif.Real.Erf
/-
  Interpretation of the scalar interface over ℝ: each symbol is Mathlib's function where there is
  one (`erf` is that of `Real/Erf.lean`, `atan2` is defined below from `Complex.arg`).  `rfl` lemmas
  turn an unfolded model term into an ordinary Mathlib term; `flt_c` leaves the cast `((n : ℕ) : ℝ)`,
  which `Nat.cast_zero`, `Nat.cast_one`, `Nat.cast_ofNat` turn into the numeral.
-/
namespace MTfitVerif

noncomputable def atan2 (y x : ℝ) : ℝ := Complex.arg ⟨x, y⟩

noncomputable instance instFltReal : Flt ℝ where
  ofNat n := (n : ℝ)
  ofSci m s e := (OfScientific.ofScientific m s e : ℝ)
  pi := Real.pi
  sqrt := Real.sqrt
  sin := Real.sin
  cos := Real.cos
  tan := Real.tan
  exp := Real.exp
  log := Real.log
  abs x := |x|
  acos := Real.arccos
  asin := Real.arcsin
  atan := Real.arctan
  erf := erf
  floor x := (⌊x⌋ : ℝ)
  atan2 := atan2
  ltb a b := decide (a < b)
  leb a b := decide (a ≤ b)
  eqb a b := decide (a = b)

@[simp] theorem flt_ofNat (n : Nat) : (Flt.ofNat n : ℝ) = (n : ℝ) := rfl
@[simp] theorem flt_c (n : Nat) : (c n : ℝ) = (n : ℝ) := rfl
@[simp] theorem flt_ofSci (m : Nat) (s : Bool) (e : Nat) :
    (Flt.ofSci m s e : ℝ) = (OfScientific.ofScientific m s e : ℝ) := rfl
@[simp] theorem flt_sci (m e : Nat) : (sci m e : ℝ) = (OfScientific.ofScientific m true e : ℝ) := rfl
@[simp] theorem flt_half : (half : ℝ) = 1 / 2 := by simp [half]
@[simp] theorem flt_pi : (Flt.pi : ℝ) = Real.pi := rfl
@[simp] theorem flt_sqrt (x : ℝ) : Flt.sqrt x = Real.sqrt x := rfl
@[simp] theorem flt_sin (x : ℝ) : Flt.sin x = Real.sin x := rfl
@[simp] theorem flt_cos (x : ℝ) : Flt.cos x = Real.cos x := rfl
@[simp] theorem flt_tan (x : ℝ) : Flt.tan x = Real.tan x := rfl
@[simp] theorem flt_exp (x : ℝ) : Flt.exp x = Real.exp x := rfl
@[simp] theorem flt_log (x : ℝ) : Flt.log x = Real.log x := rfl
@[simp] theorem flt_abs (x : ℝ) : Flt.abs x = |x| := rfl
@[simp] theorem flt_acos (x : ℝ) : Flt.acos x = Real.arccos x := rfl
@[simp] theorem flt_asin (x : ℝ) : Flt.asin x = Real.arcsin x := rfl
@[simp] theorem flt_atan (x : ℝ) : Flt.atan x = Real.arctan x := rfl
@[simp] theorem flt_erf (x : ℝ) : Flt.erf x = erf x := rfl
@[simp] theorem flt_floor (x : ℝ) : Flt.floor x = (⌊x⌋ : ℝ) := rfl
@[simp] theorem flt_atan2 (y x : ℝ) : Flt.atan2 y x = atan2 y x := rfl
@[simp] theorem flt_ltb (a b : ℝ) : Flt.ltb a b = decide (a < b) := rfl
@[simp] theorem flt_leb (a b : ℝ) : Flt.leb a b = decide (a ≤ b) := rfl
@[simp] theorem flt_eqb (a b : ℝ) : Flt.eqb a b = decide (a = b) := rfl

theorem fmax_eq (a b : ℝ) : fmax a b = max a b := by
  simp only [max_def_lt, fmax, flt_ltb, decide_eq_true_eq]

theorem fmin_eq (a b : ℝ) : fmin a b = min a b := by
  rw [min_comm]; simp only [min_def_lt, fmin, flt_ltb, decide_eq_true_eq]

theorem sumL_eq (l : List ℝ) : sumL l = l.sum := by
  induction l with
  | nil => simp [sumL]
  | cons x xs ih => simp [sumL, ih]

theorem foldl_add_eq_add_sum {ι : Type*} (f : ι → ℝ) (l : List ι) (a : ℝ) :
    l.foldl (fun s x => s + f x) a = a + (l.map f).sum := by
  induction l generalizing a with
  | nil => exact (add_zero a).symm
  | cons x l ih => rw [List.foldl_cons, ih, List.map_cons, List.sum_cons, add_assoc]

end MTfitVerif
