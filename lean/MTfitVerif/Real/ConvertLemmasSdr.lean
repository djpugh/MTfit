import MTfitVerif.Real.V3Lemmas
/-
  `FP_SDR` over ℝ (for C13 and the compiled `cN_SDR`).  `fpToSdr` in closed form: strike and dip `sdOf m` and rake
  `rakeOf m t` of the normalised normal and slip, both negated when the normal points down (`z` is down: a normal with
  `m.z ≤ 0` points up).  For a unit normal that is not vertical (`0 < hlen m`) the sines and cosines of these angles in
  terms of the vectors, and from them the two round trips angles → vectors → angles and vectors → angles → vectors.
-/
namespace MTfitVerif.ConvertSdr
open MTfitVerif.Convert Real

/-! ### `fpToSdr` in closed form -/

/-- strike/dip of a (non-flipped, normalised) normal -/
noncomputable def sdOf (n : V3 ℝ) : ℝ × ℝ :=
  (mod2pi (atan2 (-n.x) n.y),
   atan2 (n.y * n.y + n.x * n.x) (√((n.x * n.z) * (n.x * n.z) + (n.y * n.z) * (n.y * n.z))))

theorem normalToSd_of_unit {m : V3 ℝ} (hu : m.unit = m) (hz : ¬ 0 < m.z) : normalToSd m = sdOf m := by
  simp only [normalToSd, hu, flt_ltb, flt_c, Nat.cast_zero, hz, decide_false, Bool.false_eq_true,
    if_false, flt_atan2, flt_sqrt, sdOf]

/-- the rake computed by `fpToSdr` from the strike/dip pair `sd`, the (flipped, normalised) normal `m`
    and slip `t`: two analytically equal forms, the first used for near-horizontal planes -/
noncomputable def rakeRaw (sd : ℝ × ℝ) (m t : V3 ℝ) : ℝ :=
  if sin sd.2 < (sci 1 6 : ℝ) then
    atan2 (t.x * sin sd.1 * cos sd.2 - t.y * cos sd.1 * cos sd.2 - t.z * sin sd.2)
      (t.x * cos sd.1 + t.y * sin sd.1)
  else atan2 (-t.z) (t.x * m.y - t.y * m.x)

theorem rakeRaw_mem (sd : ℝ × ℝ) (m t : V3 ℝ) : -π < rakeRaw sd m t ∧ rakeRaw sd m t ≤ π := by
  unfold rakeRaw; split <;> exact atan2_mem _ _

/-- the two `± 2π` corrections of `FP_SDR` do nothing to an angle in `(−π, π]` -/
theorem rake_wrap {R : ℝ} (h : -π < R ∧ R ≤ π) :
    (if (if π < R then R - 2 * π else R) < -π then (if π < R then R - 2 * π else R) + 2 * π
      else (if π < R then R - 2 * π else R)) = R := by
  rw [if_neg (not_lt.mpr h.2), if_neg (not_lt.mpr h.1.le)]

/-- rake of a (flipped, normalised) normal `m` and slip `t` -/
noncomputable def rakeOf (m t : V3 ℝ) : ℝ := rakeRaw (sdOf m) m t

theorem rakeOf_mem (m t : V3 ℝ) : -π < rakeOf m t ∧ rakeOf m t ≤ π := rakeRaw_mem _ _ _

theorem sdOf_dip_mem (m : V3 ℝ) : 0 ≤ (sdOf m).2 ∧ (sdOf m).2 ≤ π / 2 :=
  atan2_quadrant (add_nonneg (mul_self_nonneg _) (mul_self_nonneg _)) (Real.sqrt_nonneg _)

/-- `fpToSdr` in closed form: the normalised normal and slip, both negated when the normal points down -/
theorem fpToSdr_eq (normal slip : V3 ℝ) :
    fpToSdr normal slip =
      if 0 < normal.unit.z then
        (mod2pi (sdOf normal.unit.neg).1, (sdOf normal.unit.neg).2, rakeOf normal.unit.neg slip.unit.neg)
      else (mod2pi (sdOf normal.unit).1, (sdOf normal.unit).2, rakeOf normal.unit slip.unit) := by
  simp only [fpToSdr, flt_ltb, flt_c, Nat.cast_zero, Nat.cast_ofNat, flt_atan2, flt_pi, flt_sin, flt_cos,
    decide_eq_true_eq]
  rw [rake_wrap]
  · by_cases h : 0 < normal.unit.z
    · simp only [if_pos h]
      rw [normalToSd_of_unit (by rw [V3.unit_neg, V3.unit_unit]) (neg_pos.not.mpr h.not_gt)]; rfl
    · simp only [if_neg h]
      rw [normalToSd_of_unit (V3.unit_unit _) h]; rfl
  · exact rakeRaw_mem (normalToSd _) _ _

theorem fpToSdr_of_unit {m t : V3 ℝ} (hm : V3.dot m m = 1) (ht : V3.dot t t = 1) (hz : m.z ≤ 0) :
    fpToSdr m t = (mod2pi (sdOf m).1, (sdOf m).2, rakeOf m t) := by
  rw [fpToSdr_eq, V3.unit_of_unit hm, V3.unit_of_unit ht, if_neg hz.not_gt]

theorem exists_fpToSdr_eq (normal slip : V3 ℝ) :
    ∃ m t : V3 ℝ, ((m = normal.unit ∧ t = slip.unit ∧ ¬ 0 < normal.unit.z) ∨
        (m = normal.unit.neg ∧ t = slip.unit.neg ∧ 0 < normal.unit.z)) ∧ m.z ≤ 0 ∧
      fpToSdr normal slip = (mod2pi (sdOf m).1, (sdOf m).2, rakeOf m t) := by
  by_cases h : 0 < normal.unit.z
  · exact ⟨_, _, Or.inr ⟨rfl, rfl, h⟩, (neg_neg_of_pos h).le, by rw [fpToSdr_eq, if_pos h]⟩
  · exact ⟨_, _, Or.inl ⟨rfl, rfl, h⟩, not_lt.mp h, by rw [fpToSdr_eq, if_neg h]⟩

/-- for unit vectors: the pair itself or its negative -/
theorem exists_fpToSdr_eq_of_unit {n s : V3 ℝ} (hn : V3.dot n n = 1) (hs : V3.dot s s = 1) :
    ∃ m t : V3 ℝ, ((m = n ∧ t = s) ∨ (m = n.neg ∧ t = s.neg)) ∧ m.z ≤ 0 ∧
      fpToSdr n s = (mod2pi (sdOf m).1, (sdOf m).2, rakeOf m t) := by
  obtain ⟨m, t, hc, hmz, h⟩ := exists_fpToSdr_eq n s
  rw [V3.unit_of_unit hn, V3.unit_of_unit hs] at hc
  exact ⟨m, t, hc.imp (fun x => ⟨x.1, x.2.1⟩) (fun x => ⟨x.1, x.2.1⟩), hmz, h⟩

theorem fpToSdr_neg_neg (a b : V3 ℝ) (h : a.unit.z ≠ 0) : fpToSdr a.neg b.neg = fpToSdr a b := by
  have e : ∀ v : V3 ℝ, v.neg.z = -v.z := fun _ => rfl
  rw [fpToSdr_eq, fpToSdr_eq, V3.unit_neg, V3.unit_neg, e, V3.neg_neg, V3.neg_neg]
  rcases lt_or_gt_of_ne h with h | h
  · rw [if_pos (neg_pos.mpr h), if_neg h.not_gt]
  · rw [if_neg (neg_pos.not.mpr h.not_gt), if_pos h]

/-! ### the angles of a unit normal pointing up -/

theorem pi_div_two_lt_abs_atan2 {y x : ℝ} (hx : x < 0) : π / 2 < |atan2 y x| :=
  lt_of_not_ge fun h => hx.not_ge ((abs_atan2_le_iff y x).mp h)

/-- length of the horizontal part of a vector -/
noncomputable def hlen (m : V3 ℝ) : ℝ := √(m.x ^ 2 + m.y ^ 2)

theorem hlen_sq (m : V3 ℝ) : hlen m ^ 2 = m.x ^ 2 + m.y ^ 2 := Real.sq_sqrt (by positivity)

theorem hlen_pos {m : V3 ℝ} (hxy : m.x ≠ 0 ∨ m.y ≠ 0) : 0 < hlen m := by
  refine Real.sqrt_pos.mpr ?_
  rcases hxy with h | h
  · exact add_pos_of_pos_of_nonneg (sq_pos_of_ne_zero h) (sq_nonneg _)
  · exact add_pos_of_nonneg_of_pos (sq_nonneg _) (sq_pos_of_ne_zero h)

/-- both arguments of the dip's `atan2` carry a factor `hlen m`: the dip is the angle of `(|z|, hlen m)` -/
theorem sdOf_eq {m : V3 ℝ} (hρ : 0 < hlen m) :
    sdOf m = (mod2pi (atan2 (-m.x) m.y), atan2 (hlen m) |m.z|) := by
  have e : (m.x * m.z) * (m.x * m.z) + (m.y * m.z) * (m.y * m.z) = (hlen m * |m.z|) ^ 2 := by
    rw [mul_pow, hlen_sq, sq_abs]; ring
  rw [sdOf, e, Real.sqrt_sq (mul_nonneg hρ.le (abs_nonneg _)),
    show m.y * m.y + m.x * m.x = hlen m * hlen m by rw [← sq (hlen m), hlen_sq]; ring, atan2_scale _ _ hρ]

theorem sdOf_vertical {m : V3 ℝ} (hx : m.x = 0) (hy : m.y = 0) : sdOf m = (0, 0) := by
  simp [sdOf, hx, hy, atan2_zero_zero, mod2pi_of_mem le_rfl Real.two_pi_pos]

theorem sdOf_trig {n : V3 ℝ} (hn : V3.dot n n = 1) (hz : n.z ≤ 0) (hρ : 0 < hlen n) :
    cos (sdOf n).1 = n.y / hlen n ∧ sin (sdOf n).1 = -n.x / hlen n ∧ cos (sdOf n).2 = -n.z ∧
      sin (sdOf n).2 = hlen n := by
  have h1 : hlen n ^ 2 = n.y ^ 2 + (-n.x) ^ 2 := by rw [hlen_sq]; ring
  have h2 : (1 : ℝ) ^ 2 = |n.z| ^ 2 + hlen n ^ 2 := by
    rw [sq_abs, hlen_sq]; simp only [V3.dot] at hn; linear_combination -hn
  rw [sdOf_eq hρ]
  simp only [cos_mod2pi, sin_mod2pi]
  refine ⟨cos_atan2_of_hypot hρ h1, sin_atan2_of_hypot hρ h1, ?_, ?_⟩
  · rw [cos_atan2_of_hypot one_pos h2, div_one, abs_of_nonpos hz]
  · rw [sin_atan2_of_hypot one_pos h2, div_one]

/-- the two forms of the rake agree for a unit normal `m` pointing up, not vertical, and `t` in the plane: the in-plane
    form has the arguments of the plain form `atan2(-t_z, t_x m_y - t_y m_x)`, both divided by `hlen m` -/
theorem rakeOf_eq {m t : V3 ℝ} (hm : V3.dot m m = 1) (hp : V3.dot m t = 0) (hz : m.z ≤ 0) (hρ : 0 < hlen m) :
    rakeOf m t = atan2 (-t.z) (t.x * m.y - t.y * m.x) := by
  obtain ⟨c1, s1, c2, s2⟩ := sdOf_trig hm hz hρ
  have h := hlen_sq m
  rw [rakeOf, rakeRaw, c1, s1, c2, s2]
  generalize hlen m = ρ at hρ h ⊢
  simp only [V3.dot] at hm hp
  have eY : t.x * (-m.x / ρ) * -m.z - t.y * (m.y / ρ) * -m.z - t.z * ρ = ρ⁻¹ * -t.z := by
    field_simp
    linear_combination m.z * hp - t.z * h - t.z * hm
  have eX : t.x * (m.y / ρ) + t.y * (-m.x / ρ) = ρ⁻¹ * (t.x * m.y - t.y * m.x) := by ring
  rw [eY, eX, atan2_scale _ _ (inv_pos.mpr hρ), ite_self]

theorem rakeOf_trig {m t : V3 ℝ} (hm : V3.dot m m = 1) (ht : V3.dot t t = 1)
    (hp : V3.dot m t = 0) (hz : m.z ≤ 0) (hρ : 0 < hlen m) :
    cos (rakeOf m t) = (t.x * m.y - t.y * m.x) / hlen m ∧ sin (rakeOf m t) = -t.z / hlen m := by
  have h2 : hlen m ^ 2 = (t.x * m.y - t.y * m.x) ^ 2 + (-t.z) ^ 2 := by
    rw [hlen_sq]; simp only [V3.dot] at hm ht hp
    linear_combination -(m.x ^ 2 + m.y ^ 2) * ht + t.z ^ 2 * hm + (m.x * t.x + m.y * t.y - m.z * t.z) * hp
  rw [rakeOf_eq hm hp hz hρ]
  exact ⟨cos_atan2_of_hypot hρ h2, sin_atan2_of_hypot hρ h2⟩

/-! ### angles → vectors → angles -/

theorem sin_dip_pos {d : ℝ} (hd0 : 0 < d) (hd1 : d ≤ π / 2) : 0 < sin d :=
  Real.sin_pos_of_pos_of_lt_pi hd0 (hd1.trans_lt (half_lt_self pi_pos))

theorem cos_dip_nonneg {d : ℝ} (hd0 : 0 < d) (hd1 : d ≤ π / 2) : 0 ≤ cos d :=
  Real.cos_nonneg_of_mem_Icc ⟨(neg_nonpos.mpr pi_div_two_pos.le).trans hd0.le, hd1⟩

theorem cos_dip_pos {d : ℝ} (hd0 : 0 < d) (hd1 : d < π / 2) : 0 < cos d :=
  Real.cos_pos_of_mem_Ioo ⟨(neg_neg_of_pos pi_div_two_pos).trans hd0, hd1⟩

theorem hlen_sdrVec2 (s : ℝ) {d : ℝ} (hd : 0 ≤ sin d) : hlen (sdrVec2 s d) = sin d := by
  rw [hlen, show (sdrVec2 s d).x ^ 2 + (sdrVec2 s d).y ^ 2 = sin d ^ 2 by
    simp only [sdrVec2, flt_sin, flt_cos]; linear_combination (sin d ^ 2) * Real.sin_sq_add_cos_sq s,
    Real.sqrt_sq hd]

theorem sdOf_sdrVec2 (s : ℝ) {d : ℝ} (hd0 : 0 < d) (hd1 : d ≤ π / 2) :
    sdOf (sdrVec2 s d) = (mod2pi s, d) := by
  have hsd := sin_dip_pos hd0 hd1
  have hcd := cos_dip_nonneg hd0 hd1
  rw [sdOf_eq (by rw [hlen_sdrVec2 s hsd.le]; exact hsd), hlen_sdrVec2 s hsd.le]
  simp only [sdrVec2, flt_sin, flt_cos, abs_neg, abs_of_nonneg hcd]
  rw [show -(-sin s * sin d) = sin d * sin s by ring, mul_comm (cos s), mod2pi_atan2_polar hsd,
    ← one_mul (sin d), ← one_mul (cos d),
    atan2_polar one_pos ⟨(neg_neg_of_pos pi_pos).trans hd0, hd1.trans (half_le_self pi_pos.le)⟩]

theorem rakeOf_sdrVecs (s : ℝ) {d r : ℝ} (hd0 : 0 < d) (hd1 : d ≤ π / 2) (hr0 : -π < r) (hr1 : r ≤ π) :
    rakeOf (sdrVec2 s d) (sdrVec1 s d r) = r := by
  have hsd := sin_dip_pos hd0 hd1
  have hcd := cos_dip_nonneg hd0 hd1
  rw [rakeOf_eq (sdrVec2_unit s d) ((V3.dot_comm _ _).trans (sdrVec_perp s d r))
      (sdrVec2_z_nonpos s hcd) (by rw [hlen_sdrVec2 s hsd.le]; exact hsd),
    sdrVec_cross_z, show -(sdrVec1 s d r).z = sin d * sin r by simp only [sdrVec1, flt_sin]; ring]
  exact atan2_polar hsd ⟨hr0, hr1⟩

/-! ### vectors → angles → vectors -/

theorem sdrVec2_sdOf {m : V3 ℝ} (hm : V3.dot m m = 1) (hz : m.z ≤ 0) :
    sdrVec2 (mod2pi (sdOf m).1) (sdOf m).2 = m := by
  by_cases hxy : m.x ≠ 0 ∨ m.y ≠ 0
  · have hρ := hlen_pos hxy
    obtain ⟨c1, s1, c2, s2⟩ := sdOf_trig hm hz hρ
    have h0 := hρ.ne'
    apply V3.ext' <;> simp only [sdrVec2, flt_sin, flt_cos, cos_mod2pi, sin_mod2pi, c1, s1, c2, s2] <;>
      field_simp
  · rw [not_or, not_not, not_not] at hxy
    obtain ⟨hx, hy⟩ := hxy
    have hmz : m.z = -1 := by
      simp only [V3.dot, hx, hy, mul_zero, zero_add] at hm
      exact (mul_self_eq_one_iff.mp hm).resolve_left (by linarith)
    rw [sdOf_vertical hx hy]
    apply V3.ext' <;> simp [sdrVec2, hx, hy, hmz, cos_mod2pi, sin_mod2pi]

theorem sdrVecs_of_angles {m t : V3 ℝ} (hm : V3.dot m m = 1) (ht : V3.dot t t = 1)
    (hp : V3.dot m t = 0) (hz : m.z ≤ 0) (hρ : 0 < hlen m) :
    sdrVec2 (mod2pi (sdOf m).1) (sdOf m).2 = m ∧
    sdrVec1 (mod2pi (sdOf m).1) (sdOf m).2 (rakeOf m t) = t := by
  obtain ⟨c1, s1, c2, s2⟩ := sdOf_trig hm hz hρ
  obtain ⟨c3, s3⟩ := rakeOf_trig hm ht hp hz hρ
  have h0 := hρ.ne'
  have h := hlen_sq m
  refine ⟨sdrVec2_sdOf hm hz, ?_⟩
  simp only [V3.dot] at hm ht hp
  apply V3.ext' <;>
    simp only [sdrVec1, flt_sin, flt_cos, cos_mod2pi, sin_mod2pi, c1, s1, c2, s2, c3, s3] <;> field_simp
  · linear_combination (-t.x) * h - m.x * hp
  · linear_combination (-t.y) * h - m.y * hp

theorem normalDot_eq (s₁ d₁ s₂ d₂ : ℝ) :
    normalDot s₁ d₁ s₂ d₂ = |V3.dot (sdrVec2 s₁ d₁) (sdrVec2 s₂ d₂)| := by
  simp only [normalDot, flt_abs, flt_sin, flt_cos, V3.dot, sdrVec2]
  congr 1
  rw [Real.cos_sub]; ring

/-- the plane returned by `fpToSdr` for a unit normal `n` has normal `±n` -/
theorem normalDot_fpToSdr {n sl : V3 ℝ} (hn : V3.dot n n = 1) (hs : V3.dot sl sl = 1) (s d : ℝ) :
    normalDot (fpToSdr n sl).1 (fpToSdr n sl).2.1 s d = |V3.dot n (sdrVec2 s d)| := by
  obtain ⟨m, t, hc, hmz, h⟩ := exists_fpToSdr_eq_of_unit hn hs
  rw [h, normalDot_eq]
  rcases hc with ⟨rfl, -⟩ | ⟨rfl, -⟩
  · rw [sdrVec2_sdOf hn hmz]
  · rw [sdrVec2_sdOf (by rw [V3.dot_neg_neg, hn]) hmz, V3.dot_neg_left, abs_neg]

end MTfitVerif.ConvertSdr
