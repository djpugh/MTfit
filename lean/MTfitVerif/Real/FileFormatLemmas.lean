import MTfitVerif.Model.Binary
import MTfitVerif.Model.Csv
import MTfitVerif.Real.Inst
/-
  Binary result files: `writeSample_eq` and `readSamples_succ` bring the writer and the reader of one
  sample to matching forms (`packed`, `unpack`).  CSV input: the reader is a fold of `stepLine`,
  computed row by row and block by block (`flush_block`).  hyp files: `picks` as a fold of `pickStep`.
-/
namespace MTfitVerif
namespace Binary

theorem takeD_map {α : Type} (n : Nat) (l : List α) (rest : List (Word α)) (h : l.length = n) :
    takeD n (l.map (fun x => Word.d (some x)) ++ rest) = some (l, rest) := by
  subst h
  induction l with
  | nil => simp [takeD]
  | cons x xs ih => simp [takeD, ih]

/-- the eight leading doubles of a sample as written -/
noncomputable def packed (s : Sample ℝ) : List ℝ :=
  [s.p, s.lnp, s.mt.getD 0 0, s.mt.getD 1 0, s.mt.getD 2 0,
    s.mt.getD 3 0 / Real.sqrt 2, s.mt.getD 4 0 / Real.sqrt 2, s.mt.getD 5 0 / Real.sqrt 2]

theorem writeSample_eq (conv : Bool) (s : Sample ℝ) (hc : s.conv.length = (if conv then 13 else 0)) :
    writeSample conv s = (packed s).map (fun x => Word.d (some x)) ++ s.conv.map (fun x => Word.d (some x)) := by
  have e : (if conv then s.conv.map (fun x => Word.d (some x)) else []) = s.conv.map (fun x => Word.d (some x)) := by
    cases conv
    · rw [List.length_eq_zero_iff.mp hc]; rfl
    · rfl
  rw [writeSample, e]
  simp only [packed, flt_sqrt, flt_c, Nat.cast_ofNat, Nat.cast_zero, List.map_cons, List.map_nil]

/-- the sample the reader builds from the eight leading doubles `v` and the converted parameters `cv` -/
noncomputable def unpack (v cv : List ℝ) : Sample ℝ :=
  { p := v.getD 0 (c 0), lnp := v.getD 1 (c 0),
    mt := [v.getD 2 (c 0), v.getD 3 (c 0), v.getD 4 (c 0), Flt.sqrt (c 2) * v.getD 5 (c 0), Flt.sqrt (c 2) * v.getD 6 (c 0),
      Flt.sqrt (c 2) * v.getD 7 (c 0)],
    conv := cv }

/-- the `do` block of `readSamples` in bind form (`takeD 0` reads nothing) -/
theorem readSamples_succ (conv : Bool) (n : Nat) (ws : List (Word ℝ)) :
    readSamples conv (n + 1) ws = (takeD 8 ws).bind fun p =>
      (takeD (if conv then 13 else 0) p.2).bind fun q =>
        (readSamples conv n q.2).bind fun r => some (unpack p.1 q.1 :: r.1, r.2) := by
  cases conv <;> rfl

theorem read_of_readOne {fuel : Nat} {ws rest : List (Word ℝ)} {r : Record ℝ} (h : readOne ws = some (r, rest)) :
    read (fuel + 1) ws = (read fuel rest).bind fun rs => some (r :: rs) := by
  cases ws with
  | nil => cases h
  | cons w ws =>
    rw [read, h]
    · rfl
    · exact List.cons_ne_nil w ws

end Binary

namespace Csv

theorem setKey_fresh (types : List (String × List Row)) (k : String) (rows : List Row)
    (h : ∀ p ∈ types, p.1 ≠ k) : setKey types k rows = types ++ [(k, rows)] := by
  have : types.any (·.1 == k) = false := by
    simp only [List.any_eq_false, beq_iff_eq]
    intro p hp; exact h p hp
  simp [setKey, this]

theorem foldl_stepLine_rows (rows : List (List String)) (s : EvState) :
    (rows.map CLine.row).foldl stepLine s
      = { s with rows := s.rows ++ rows.map (mkRow s.ps.idx) } := by
  induction rows generalizing s with
  | nil => simp
  | cons r rs ih => simp [ih, stepLine]

theorem foldl_stepLine_block (k : String) (i : Idx) (rows : List (List String)) (s : EvState) :
    (CLine.typ k :: CLine.header i :: rows.map CLine.row).foldl stepLine s
      = { ps := ⟨k, i⟩, uid := s.uid, rows := rows.map (mkRow i), types := flush s } := by
  simp [List.foldl_cons, foldl_stepLine_rows, stepLine]

theorem flush_block (k : String) (i : Idx) (rows : List (List String)) (s : EvState)
    (hne : rows ≠ []) (hk : ∀ p ∈ flush s, p.1 ≠ k) :
    flush { ps := ⟨k, i⟩, uid := s.uid, rows := rows.map (mkRow i), types := flush s }
      = flush s ++ [(k, rows.map (mkRow i))] := by
  have : (rows.map (mkRow i)).isEmpty = false := by simpa using hne
  rw [flush]
  simp only [this]
  exact setKey_fresh _ _ _ hk

theorem foldl_stepLine_blocks (ts : List (String × Idx × List (List String))) (s : EvState)
    (hne : ∀ t ∈ ts, t.2.2 ≠ [])
    (hk : ((flush s).map (·.1) ++ ts.map (·.1)).Nodup) :
    let s' := (ts.flatMap fun t => CLine.typ t.1 :: CLine.header t.2.1 :: t.2.2.map CLine.row).foldl stepLine s
    flush s' = flush s ++ ts.map (fun t => (t.1, t.2.2.map (mkRow t.2.1))) ∧ s'.uid = s.uid := by
  induction ts generalizing s with
  | nil => exact ⟨(List.append_nil _).symm, rfl⟩
  | cons t ts ih =>
    obtain ⟨ht, hne⟩ := List.forall_mem_cons.mp hne
    have hfl := flush_block t.1 t.2.1 t.2.2 s ht fun p hp heq =>
      (List.nodup_append.mp hk).2.2 p.1 (List.mem_map_of_mem hp) t.1 List.mem_cons_self heq
    obtain ⟨h1, h2⟩ := ih { ps := ⟨t.1, t.2.1⟩, uid := s.uid, rows := t.2.2.map (mkRow t.2.1), types := flush s }
      hne (by rw [hfl]; simpa [List.append_assoc] using hk)
    simp only [List.flatMap_cons, List.foldl_append, foldl_stepLine_block]
    rw [h1, hfl, List.append_assoc]
    exact ⟨rfl, h2⟩

/-! ### hyp picks -/

def pickStep (acc : Bool × List Pick) (l : List String) : Bool × List Pick :=
  match l.headD "" with
  | "PHASE" => (true, acc.2)
  | "END_PHASE" => (false, acc.2)
  | _ => if acc.1 then (acc.1, acc.2 ++ (pickOf l).toList) else acc

theorem picks_eq (lines : List (List String)) : picks lines = (lines.foldl pickStep (false, [])).2 := rfl

theorem pickStep_phase (acc : Bool × List Pick) : pickStep acc ["PHASE"] = (true, acc.2) := rfl
theorem pickStep_end (acc : Bool × List Pick) : pickStep acc ["END_PHASE"] = (false, acc.2) := rfl

theorem foldl_pickStep_outside (ls : List (List String)) (acc : List Pick)
    (h : ∀ l ∈ ls, l.headD "" ≠ "PHASE") : ls.foldl pickStep (false, acc) = (false, acc) := by
  induction ls with
  | nil => rfl
  | cons l ls ih =>
    obtain ⟨hl, h⟩ := List.forall_mem_cons.mp h
    have : pickStep (false, acc) l = (false, acc) := by
      unfold pickStep
      split
      · contradiction
      · rfl
      · simp
    rw [List.foldl_cons, this]
    exact ih h

theorem foldl_pickStep_inside (ls : List (List String)) (acc : List Pick)
    (h : ∀ l ∈ ls, l.headD "" ≠ "PHASE" ∧ l.headD "" ≠ "END_PHASE") :
    ls.foldl pickStep (true, acc) = (true, acc ++ ls.filterMap pickOf) := by
  induction ls generalizing acc with
  | nil => simp
  | cons l ls ih =>
    obtain ⟨hl, h⟩ := List.forall_mem_cons.mp h
    have : pickStep (true, acc) l = (true, acc ++ (pickOf l).toList) := by
      unfold pickStep
      split
      · exact absurd ‹_› hl.1
      · exact absurd ‹_› hl.2
      · simp
    rw [List.foldl_cons, this, ih _ h]
    cases hp : pickOf l <;> simp [hp]

end Csv
end MTfitVerif
