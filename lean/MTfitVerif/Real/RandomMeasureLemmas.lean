import Mathlib.Probability.Distributions.Gaussian.Multivariate
import Mathlib.LinearAlgebra.CrossProduct
import Mathlib.Analysis.Normed.Module.Normalize
import MTfitVerif.Real.RandomMTLemmas
/-
  For the measure-theoretic half of C08: bridging maps between the model's
  `V6 ℝ` / `V3 ℝ` records and Mathlib's Euclidean spaces, the model samplers expressed in
  Euclidean-space terms (`randomMt` and `unit` are `NormedSpace.normalize`), what a rotation of the
  draws does to the sampled tensor, measurability, null sets of the standard Gaussian, and the general
  facts on image measures (`map_invariant_of_equivariant`, `map_compl_null`) that carry the invariance
  and support theorems.
-/
namespace MTfitVerif.RandomMT
open MTfitVerif.Convert MeasureTheory ProbabilityTheory

/-- Euclidean six-space (the space of six-vectors of a moment tensor) -/
abbrev E6 := EuclideanSpace ℝ (Fin 6)
abbrev E3 := EuclideanSpace ℝ (Fin 3)

theorem normalize_map {E F : Type*} [NormedAddCommGroup E] [NormedSpace ℝ E]
    [NormedAddCommGroup F] [NormedSpace ℝ F] (U : E ≃ₗᵢ[ℝ] F) (x : E) :
    U (NormedSpace.normalize x) = NormedSpace.normalize (U x) := by
  rw [NormedSpace.normalize, U.map_smul, ← U.norm_map, NormedSpace.normalize]

theorem measurable_normalize {E : Type*} [NormedAddCommGroup E] [NormedSpace ℝ E]
    [MeasurableSpace E] [BorelSpace E] : Measurable (NormedSpace.normalize : E → E) := by
  unfold NormedSpace.normalize; fun_prop

noncomputable def toE6 (v : V6 ℝ) : E6 := WithLp.toLp 2 ![v.a, v.b, v.c, v.d, v.e, v.f]
def ofE6 (x : E6) : V6 ℝ := ⟨x 0, x 1, x 2, x 3, x 4, x 5⟩

@[simp] theorem toE6_apply0 (v : V6 ℝ) : toE6 v 0 = v.a := rfl
@[simp] theorem toE6_apply1 (v : V6 ℝ) : toE6 v 1 = v.b := rfl
@[simp] theorem toE6_apply2 (v : V6 ℝ) : toE6 v 2 = v.c := rfl
@[simp] theorem toE6_apply3 (v : V6 ℝ) : toE6 v 3 = v.d := rfl
@[simp] theorem toE6_apply4 (v : V6 ℝ) : toE6 v 4 = v.e := rfl
@[simp] theorem toE6_apply5 (v : V6 ℝ) : toE6 v 5 = v.f := rfl

theorem ofE6_toE6 (v : V6 ℝ) : ofE6 (toE6 v) = v := rfl

theorem toE6_ofE6 (x : E6) : toE6 (ofE6 x) = x := by
  ext i; fin_cases i <;> rfl

theorem norm_toE6 (v : V6 ℝ) : ‖toE6 v‖ = v.norm := by
  rw [EuclideanSpace.norm_eq, Fin.sum_univ_six, v6_norm_eq]
  simp only [toE6_apply0, toE6_apply1, toE6_apply2, toE6_apply3, toE6_apply4, toE6_apply5,
    Real.norm_eq_abs, sq_abs, sqs]
  congr 1; ring

theorem norm_ofE6 (x : E6) : (ofE6 x).norm = ‖x‖ := by
  rw [← norm_toE6, toE6_ofE6]

theorem toE6_randomMt (v : V6 ℝ) : toE6 (randomMt v) = NormedSpace.normalize (toE6 v) := by
  rw [NormedSpace.normalize, norm_toE6]
  simp only [toE6, randomMt_eq, ← WithLp.toLp_smul, Matrix.smul_cons, Matrix.smul_empty, smul_eq_mul,
    div_eq_inv_mul]

theorem toE6_randomMt_ofE6 (x : E6) : toE6 (randomMt (ofE6 x)) = NormedSpace.normalize x := by
  rw [toE6_randomMt, toE6_ofE6]

theorem measurable_sampler6 : Measurable (fun x : E6 => toE6 (randomMt (ofE6 x))) := by
  simp only [toE6_randomMt_ofE6]; exact measurable_normalize

noncomputable def toE3 (v : V3 ℝ) : E3 := WithLp.toLp 2 ![v.x, v.y, v.z]
def ofE3 (x : E3) : V3 ℝ := ⟨x 0, x 1, x 2⟩

@[simp] theorem toE3_apply0 (v : V3 ℝ) : toE3 v 0 = v.x := rfl
@[simp] theorem toE3_apply1 (v : V3 ℝ) : toE3 v 1 = v.y := rfl
@[simp] theorem toE3_apply2 (v : V3 ℝ) : toE3 v 2 = v.z := rfl

theorem ofE3_toE3 (v : V3 ℝ) : ofE3 (toE3 v) = v := rfl

theorem toE3_ofE3 (x : E3) : toE3 (ofE3 x) = x := by
  ext i; fin_cases i <;> rfl

theorem toE3_injective : Function.Injective toE3 := Function.LeftInverse.injective ofE3_toE3

theorem inner_E3 (w y : E3) : inner ℝ w y = w 0 * y 0 + w 1 * y 1 + w 2 * y 2 := by
  rw [PiLp.inner_apply, Fin.sum_univ_three]
  simp [mul_comm]

theorem dot_eq_inner (a b : V3 ℝ) : V3.dot a b = inner ℝ (toE3 a) (toE3 b) :=
  (inner_E3 (toE3 a) (toE3 b)).symm

theorem dot_self_ne_zero_iff (v : V3 ℝ) : V3.dot v v ≠ 0 ↔ toE3 v ≠ 0 := by
  rw [dot_eq_inner, Ne, inner_self_eq_zero]

theorem norm_toE3 (v : V3 ℝ) : ‖toE3 v‖ = v.norm := by
  rw [V3.norm_eq, dot_eq_inner, real_inner_self_eq_norm_sq, Real.sqrt_sq (norm_nonneg _)]

theorem norm_ofE3 (x : E3) : (ofE3 x).norm = ‖x‖ := by
  rw [← norm_toE3, toE3_ofE3]

theorem toE3_unit (v : V3 ℝ) : toE3 v.unit = NormedSpace.normalize (toE3 v) := by
  rw [NormedSpace.normalize, norm_toE3]
  simp only [toE3, V3.unit, V3.sdiv, ← WithLp.toLp_smul, Matrix.smul_cons, Matrix.smul_empty,
    smul_eq_mul, div_eq_inv_mul]

noncomputable def crossE (a b : E3) : E3 := toE3 (V3.cross (ofE3 a) (ofE3 b))

theorem toE3_cross (a b : V3 ℝ) : toE3 (V3.cross a b) = crossE (toE3 a) (toE3 b) := rfl

theorem crossE_eq (a b : E3) : crossE a b =
    WithLp.toLp 2 ![a 1 * b 2 - a 2 * b 1, a 2 * b 0 - a 0 * b 2, a 0 * b 1 - a 1 * b 0] := rfl

theorem measurable_crossE {Ω : Type*} [MeasurableSpace Ω] {f g : Ω → E3} (hf : Measurable f)
    (hg : Measurable g) : Measurable (fun ω => crossE (f ω) (g ω)) := by
  simp only [crossE_eq]
  fun_prop

attribute [fun_prop] measurable_normalize measurable_crossE

noncomputable def triadE (p : E3 × E3) : E3 × E3 × E3 :=
  (toE3 (triad (ofE3 p.1) (ofE3 p.2)).1, toE3 (triad (ofE3 p.1) (ofE3 p.2)).2.1,
    toE3 (triad (ofE3 p.1) (ofE3 p.2)).2.2)

theorem triadE_eq (p : E3 × E3) : triadE p =
    (NormedSpace.normalize p.1, NormedSpace.normalize (crossE (NormedSpace.normalize p.1) p.2),
      NormedSpace.normalize (crossE (NormedSpace.normalize p.1)
        (NormedSpace.normalize (crossE (NormedSpace.normalize p.1) p.2)))) := by
  simp only [triadE, triad_eq, toE3_unit, toE3_cross, toE3_ofE3]

theorem measurable_triadE : Measurable triadE := by
  rw [funext triadE_eq]; fun_prop

noncomputable def actV3 (R : E3 ≃ₗᵢ[ℝ] E3) (v : V3 ℝ) : V3 ℝ := ofE3 (R (toE3 v))

theorem toE3_actV3 (R : E3 ≃ₗᵢ[ℝ] E3) (v : V3 ℝ) : toE3 (actV3 R v) = R (toE3 v) := toE3_ofE3 _

theorem actV3_ofE3 (R : E3 ≃ₗᵢ[ℝ] E3) (x : E3) : actV3 R (ofE3 x) = ofE3 (R x) := by
  rw [actV3, toE3_ofE3]

/-- normalising commutes with an isometry (unconditionally: `unit 0 = 0`) -/
theorem unit_actV3 (R : E3 ≃ₗᵢ[ℝ] E3) (v : V3 ℝ) : (actV3 R v).unit = actV3 R v.unit := by
  apply toE3_injective
  rw [toE3_unit, toE3_actV3, toE3_actV3, toE3_unit, normalize_map]

theorem dot_actV3 (R : E3 ≃ₗᵢ[ℝ] E3) (a b : V3 ℝ) : V3.dot (actV3 R a) (actV3 R b) = V3.dot a b := by
  rw [dot_eq_inner, dot_eq_inner, toE3_actV3, toE3_actV3, LinearIsometryEquiv.inner_map_map]

section Rot
open Matrix

/-! ### proper rotations preserve the cross product -/

theorem rows_mulVec (A : Matrix (Fin 3) (Fin 3) ℝ) (c a b : Fin 3 → ℝ) :
    (![A *ᵥ c, A *ᵥ a, A *ᵥ b] : Matrix (Fin 3) (Fin 3) ℝ) = Matrix.of ![c, a, b] * Aᵀ := by
  simp only [cons_mul, empty_mul, vecMul_transpose]; rfl

theorem mulVec_cross_of_rot (A : Matrix (Fin 3) (Fin 3) ℝ) (hA : A * Aᵀ = 1) (hd : A.det = 1)
    (a b : Fin 3 → ℝ) : A *ᵥ (a ⨯₃ b) = (A *ᵥ a) ⨯₃ (A *ᵥ b) := by
  -- against every `c`: `c·Aᵀ(Aa × Ab) = det ![Ac, Aa, Ab] = det A · det ![c, a, b] = c·(a × b)`
  have key : Aᵀ *ᵥ ((A *ᵥ a) ⨯₃ (A *ᵥ b)) = a ⨯₃ b := by
    refine (dotProduct_eq _ _ fun c => ?_)
    rw [dotProduct_comm, dotProduct_mulVec, vecMul_transpose, triple_product_eq_det, rows_mulVec,
      det_mul, det_transpose, hd, mul_one, dotProduct_comm]
    exact (triple_product_eq_det c a b).symm
  rw [← key, mulVec_mulVec, hA, one_mulVec]

def vec3 (v : V3 ℝ) : Fin 3 → ℝ := ![v.x, v.y, v.z]

theorem ofLp_toE3 (v : V3 ℝ) : WithLp.ofLp (toE3 v) = vec3 v := rfl

theorem vec3_injective : Function.Injective vec3 := (WithLp.ofLp_injective 2).comp toE3_injective

theorem vec3_cross (a b : V3 ℝ) : vec3 (V3.cross a b) = vec3 a ⨯₃ vec3 b := by
  rw [cross_apply]; rfl

theorem vec3_ofE3 (y : E3) : vec3 (ofE3 y) = WithLp.ofLp y := by
  rw [← ofLp_toE3, toE3_ofE3]

/-- matrix of a linear isometry of Euclidean three-space in the standard basis -/
noncomputable def matE3 (R : E3 ≃ₗᵢ[ℝ] E3) : Matrix (Fin 3) (Fin 3) ℝ :=
  LinearMap.toMatrix (EuclideanSpace.basisFun (Fin 3) ℝ).toBasis
    (EuclideanSpace.basisFun (Fin 3) ℝ).toBasis (R.toLinearEquiv : E3 →ₗ[ℝ] E3)

theorem matE3_mulVec (R : E3 ≃ₗᵢ[ℝ] E3) (x : E3) :
    matE3 R *ᵥ WithLp.ofLp x = WithLp.ofLp (R x) :=
  LinearMap.toMatrix_mulVec_repr _ _ _ x

theorem matE3_orth (R : E3 ≃ₗᵢ[ℝ] E3) : matE3 R * (matE3 R)ᵀ = 1 :=
  (Matrix.mem_orthogonalGroup_iff (Fin 3) ℝ).mp (R.toMatrix_mem_unitaryGroup _ _)

theorem matE3_det (R : E3 ≃ₗᵢ[ℝ] E3) :
    (matE3 R).det = LinearMap.det (R.toLinearEquiv : E3 →ₗ[ℝ] E3) :=
  LinearMap.det_toMatrix _ _

theorem vec3_actV3 (R : E3 ≃ₗᵢ[ℝ] E3) (v : V3 ℝ) : vec3 (actV3 R v) = matE3 R *ᵥ vec3 v := by
  rw [← ofLp_toE3, toE3_actV3, ← matE3_mulVec, ofLp_toE3]

/-! ### the induced action `M ↦ R M Rᵀ` on sampled tensors -/

def symMat (m : Sym3 ℝ) : Matrix (Fin 3) (Fin 3) ℝ :=
  !![m.xx, m.xy, m.xz; m.xy, m.yy, m.yz; m.xz, m.yz, m.zz]

/-- `M ↦ A M Aᵀ` on symmetric tensors -/
def conjSym (A : Matrix (Fin 3) (Fin 3) ℝ) (m : Sym3 ℝ) : Sym3 ℝ :=
  ⟨(A * symMat m * Aᵀ) 0 0, (A * symMat m * Aᵀ) 1 1, (A * symMat m * Aᵀ) 2 2,
   (A * symMat m * Aᵀ) 0 1, (A * symMat m * Aᵀ) 0 2, (A * symMat m * Aᵀ) 1 2⟩

def ofMat (B : Matrix (Fin 3) (Fin 3) ℝ) : Sym3 ℝ := ⟨B 0 0, B 1 1, B 2 2, B 0 1, B 0 2, B 1 2⟩

theorem isSymm_symMat (m : Sym3 ℝ) : (symMat m).IsSymm := eta_fin_three _

theorem symMat_ofMat {B : Matrix (Fin 3) (Fin 3) ℝ} (hB : B.IsSymm) : symMat (ofMat B) = B := by
  conv_rhs => rw [eta_fin_three B, hB.apply 0 1, hB.apply 0 2, hB.apply 1 2]
  rfl

theorem conjSym_eq (A : Matrix (Fin 3) (Fin 3) ℝ) (m : Sym3 ℝ) :
    conjSym A m = ofMat (A * symMat m * Aᵀ) := rfl

theorem isSymm_conj {A S : Matrix (Fin 3) (Fin 3) ℝ} (hS : S.IsSymm) : (A * S * Aᵀ).IsSymm := by
  rw [IsSymm, transpose_mul, transpose_mul, transpose_transpose, hS.eq, Matrix.mul_assoc]

theorem symMat_conjSym (A : Matrix (Fin 3) (Fin 3) ℝ) (m : Sym3 ℝ) :
    symMat (conjSym A m) = A * symMat m * Aᵀ :=
  symMat_ofMat (isSymm_conj (isSymm_symMat m))

/-- `Σ eₖ vₖvₖᵀ` as a matrix -/
def outer (T N P e : Fin 3 → ℝ) : Matrix (Fin 3) (Fin 3) ℝ :=
  e 0 • vecMulVec T T + e 1 • vecMulVec N N + e 2 • vecMulVec P P

theorem rebuild_eq (T N P e : V3 ℝ) :
    rebuild T N P e = ofMat (outer (vec3 T) (vec3 N) (vec3 P) (vec3 e)) := by
  unfold rebuild ofMat outer; rfl

theorem isSymm_outer (T N P e : Fin 3 → ℝ) : (outer T N P e).IsSymm :=
  (((IsSymm.smul (transpose_vecMulVec T T) _).add (IsSymm.smul (transpose_vecMulVec N N) _)).add
    (IsSymm.smul (transpose_vecMulVec P P) _))

theorem conj_outer (A : Matrix (Fin 3) (Fin 3) ℝ) (T N P e : Fin 3 → ℝ) :
    A * outer T N P e * Aᵀ = outer (A *ᵥ T) (A *ᵥ N) (A *ᵥ P) e := by
  simp only [outer, Matrix.mul_add, Matrix.add_mul, Matrix.mul_smul, Matrix.smul_mul,
    mul_vecMulVec, vecMulVec_mul, vecMul_transpose]

theorem rebuild_actV3 (R : E3 ≃ₗᵢ[ℝ] E3) (T N P e : V3 ℝ) :
    rebuild (actV3 R T) (actV3 R N) (actV3 R P) e = conjSym (matE3 R) (rebuild T N P e) := by
  rw [rebuild_eq, rebuild_eq, conjSym_eq, symMat_ofMat (isSymm_outer _ _ _ _), conj_outer,
    vec3_actV3, vec3_actV3, vec3_actV3]

/-- the Frobenius norm of `Σ eₖ vₖvₖᵀ` is unchanged when the three vectors are moved by an isometry -/
theorem rebuild_norm_actV3 (R : E3 ≃ₗᵢ[ℝ] E3) (T N P e : V3 ℝ) :
    (lune_raw6 (rebuild (actV3 R T) (actV3 R N) (actV3 R P) e)).norm
      = (lune_raw6 (rebuild T N P e)).norm := by
  rw [lune_raw6_norm, lune_raw6_norm, rebuild_frob, rebuild_frob]
  simp only [dot_actV3]

/-- induced action `M ↦ A M Aᵀ` on six-vectors `(Mxx, Myy, Mzz, √2Mxy, √2Mxz, √2Myz)` -/
noncomputable def conj6 (A : Matrix (Fin 3) (Fin 3) ℝ) (v : V6 ℝ) : V6 ℝ :=
  lune_raw6 (conjSym A (mt6ToMt33 v))

theorem mt6ToMt33_conj6 (A : Matrix (Fin 3) (Fin 3) ℝ) (v : V6 ℝ) :
    mt6ToMt33 (conj6 A v) = conjSym A (mt6ToMt33 v) := mt6ToMt33_lune_raw6 _

theorem eigvecsToMt6_actV3 (R : E3 ≃ₗᵢ[ℝ] E3) (diag a b cc : V3 ℝ) :
    eigvecsToMt6 diag (actV3 R a) (actV3 R b) (actV3 R cc)
      = conj6 (matE3 R) (eigvecsToMt6 diag a b cc) := by
  rw [eigvecsToMt6_eq_sdiv, eigvecsToMt6_eq_sdiv, rebuild_norm_actV3, conj6, mt6ToMt33_lune_raw6,
    rebuild_actV3]

noncomputable def conjE6 (R : E3 ≃ₗᵢ[ℝ] E3) (x : E6) : E6 := toE6 (conj6 (matE3 R) (ofE6 x))

/-- both `conjE6 R` and the tensor sampler before normalisation have this form -/
theorem measurable_toE6_raw6_ofMat {Ω : Type*} [MeasurableSpace Ω] {B : Ω → Matrix (Fin 3) (Fin 3) ℝ}
    (hB : ∀ i j, Measurable fun ω => B ω i j) : Measurable fun ω => toE6 (lune_raw6 (ofMat (B ω))) := by
  refine (WithLp.measurable_toLp 2 _).comp (measurable_pi_iff.mpr fun i => ?_)
  fin_cases i
  exacts [hB 0 0, hB 1 1, hB 2 2, (hB 0 1).const_mul _, (hB 0 2).const_mul _, (hB 1 2).const_mul _]

theorem measurable_eigvecsToMt6 {Ω : Type*} [MeasurableSpace Ω] (diag : V3 ℝ) {a b c : Ω → E3}
    (ha : Measurable a) (hb : Measurable b) (hc : Measurable c) :
    Measurable fun ω => toE6 (eigvecsToMt6 diag (ofE3 (a ω)) (ofE3 (b ω)) (ofE3 (c ω))) := by
  simp only [eigvecsToMt6_eq, toE6_randomMt, rebuild_eq, vec3_ofE3]
  refine measurable_normalize.comp (measurable_toE6_raw6_ofMat fun i j => ?_)
  simp only [outer, Matrix.add_apply, Matrix.smul_apply, vecMulVec_apply, smul_eq_mul]
  fun_prop

theorem continuous_symMat_mt6 : Continuous fun x : E6 => symMat (mt6ToMt33 (ofE6 x)) := by
  simp only [mt6ToMt33_eq, symMat, ofE6]
  fun_prop

theorem measurable_conjE6 (R : E3 ≃ₗᵢ[ℝ] E3) : Measurable (conjE6 R) :=
  measurable_toE6_raw6_ofMat fun i j => (((continuous_const.matrix_mul continuous_symMat_mt6).matrix_mul
    continuous_const).matrix_elem i j).measurable

noncomputable def randomTypeE (diag : V3 ℝ) (p : E3 × E3) : E6 :=
  toE6 (randomType diag (ofE3 p.1) (ofE3 p.2))

theorem randomTypeE_eq (diag : V3 ℝ) (p : E3 × E3) : randomTypeE diag p =
    toE6 (eigvecsToMt6 diag (ofE3 (triadE p).1) (ofE3 (triadE p).2.1) (ofE3 (triadE p).2.2)) := rfl

theorem measurable_randomTypeE (diag : V3 ℝ) : Measurable (randomTypeE diag) := by
  -- without this rewrite the unifier unfolds `triad` three times over and runs out of heartbeats
  rw [funext (randomTypeE_eq diag)]
  exact measurable_eigvecsToMt6 diag measurable_triadE.fst measurable_triadE.snd.fst
    measurable_triadE.snd.snd

end Rot

/-! ### null sets of the standard Gaussian -/

theorem stdGaussian_ae_inner_ne_zero {E : Type*} [NormedAddCommGroup E] [InnerProductSpace ℝ E]
    [FiniteDimensional ℝ E] [MeasurableSpace E] [BorelSpace E] {w : E} (hw : w ≠ 0) :
    ∀ᵐ x ∂stdGaussian E, inner ℝ w x ≠ 0 := by
  have h : (stdGaussian E).map (innerSL ℝ w) = gaussianReal 0 (‖w‖ ^ 2).toNNReal := by
    rw [IsGaussian.map_eq_gaussianReal, integral_strongDual_stdGaussian, variance_dual_stdGaussian,
      innerSL_apply_norm]
  have := nullSingletonClass_gaussianReal (μ := 0) (v := (‖w‖ ^ 2).toNNReal)
    (Real.toNNReal_pos.2 (pow_pos (norm_pos_iff.2 hw) 2)).ne'
  refine measure_eq_zero_iff_ae_notMem.1 (?_ : stdGaussian E ((innerSL ℝ w) ⁻¹' {0}) = 0)
  rw [← Measure.map_apply (innerSL ℝ w).continuous.measurable (measurableSet_singleton 0), h]
  exact measure_singleton 0

/-- no atom at the origin: the origin lies in a hyperplane -/
theorem stdGaussian_ae_ne_zero {E : Type*} [NormedAddCommGroup E] [InnerProductSpace ℝ E]
    [FiniteDimensional ℝ E] [MeasurableSpace E] [BorelSpace E] [Nontrivial E] :
    ∀ᵐ x ∂stdGaussian E, x ≠ 0 := by
  obtain ⟨w, hw⟩ := exists_ne (0 : E)
  exact (stdGaussian_ae_inner_ne_zero hw).mono fun x hx h0 => hx (by rw [h0, inner_zero_right])

/-- for `a ≠ 0` some row `w ≠ 0` of the cross-product matrix of `a` gives a component of `a × y` -/
theorem exists_inner_eq_crossE_apply {a : E3} (ha : a ≠ 0) :
    ∃ (w : E3) (i : Fin 3), w ≠ 0 ∧ ∀ y : E3, inner ℝ w y = crossE a y i := by
  by_cases hw : (WithLp.toLp 2 ![0, -a 2, a 1] : E3) = 0
  · refine ⟨WithLp.toLp 2 ![a 2, 0, -a 0], 1, fun h1 => ha ?_, fun y => ?_⟩
    · have e1 : a 1 = 0 := congrArg (fun v : E3 => v 2) hw
      have e2 : -a 2 = 0 := congrArg (fun v : E3 => v 1) hw
      have e0 : -a 0 = 0 := congrArg (fun v : E3 => v 2) h1
      ext i; fin_cases i
      exacts [neg_eq_zero.mp e0, e1, neg_eq_zero.mp e2]
    · rw [inner_E3]
      show a 2 * y 0 + 0 * y 1 + -a 0 * y 2 = a 2 * y 0 - a 0 * y 2
      ring
  · refine ⟨_, 0, hw, fun y => ?_⟩
    rw [inner_E3]
    show 0 * y 0 + -a 2 * y 1 + a 1 * y 2 = a 1 * y 2 - a 2 * y 1
    ring

theorem stdGaussian_ae_crossE_ne_zero {a : E3} (ha : a ≠ 0) :
    ∀ᵐ y ∂stdGaussian E3, crossE a y ≠ 0 := by
  obtain ⟨w, i, hw, h⟩ := exists_inner_eq_crossE_apply ha
  exact (stdGaussian_ae_inner_ne_zero hw).mono fun y hy h0 => hy (by rw [h, h0]; rfl)

theorem ae_not_degenerate :
    ∀ᵐ p ∂((stdGaussian E3).prod (stdGaussian E3)),
      p.1 ≠ 0 ∧ crossE (NormedSpace.normalize p.1) p.2 ≠ 0 := by
  have hm : MeasurableSet {p : E3 × E3 | p.1 ≠ 0 ∧ crossE (NormedSpace.normalize p.1) p.2 ≠ 0} :=
    ((measurableSet_singleton (0 : E3)).compl.preimage measurable_fst).inter
      ((measurableSet_singleton (0 : E3)).compl.preimage
        (measurable_crossE (measurable_normalize.comp measurable_fst) measurable_snd))
  refine (Measure.ae_prod_iff_ae_ae hm).2 ?_
  filter_upwards [stdGaussian_ae_ne_zero (E := E3)] with x hx
  filter_upwards [stdGaussian_ae_crossE_ne_zero ((NormedSpace.normalize_eq_zero_iff x).not.2 hx)]
    with y hy
  exact ⟨hx, hy⟩

theorem map_invariant_of_equivariant {X Y : Type*} [MeasurableSpace X] [MeasurableSpace Y]
    {μ : Measure X} {g : X → Y} {U : X → X} {V : Y → Y} (hg : Measurable g) (hU : Measurable U)
    (hV : Measurable V) (hμ : μ.map U = μ) (hcomm : ∀ x, V (g x) = g (U x)) :
    (μ.map g).map V = μ.map g := by
  rw [Measure.map_map hV hg, show V ∘ g = g ∘ U from funext hcomm, ← Measure.map_map hg hU, hμ]

theorem stdGaussian_prod_map (R : E3 ≃ₗᵢ[ℝ] E3) :
    ((stdGaussian E3).prod (stdGaussian E3)).map (Prod.map R R)
      = (stdGaussian E3).prod (stdGaussian E3) :=
  have h : MeasurePreserving R (stdGaussian E3) (stdGaussian E3) :=
    ⟨R.continuous.measurable, stdGaussian_map R⟩
  -- instance search reaches this only after a detour through Haar and regular measures
  have := IsFiniteMeasure.toSigmaFinite (stdGaussian E3)
  (h.prod h).map_eq

theorem map_compl_null {X Y : Type*} [MeasurableSpace X] [MeasurableSpace Y] {μ : Measure X}
    {g : X → Y} (hg : Measurable g) {S : Set Y} (hS : MeasurableSet S) (h : ∀ᵐ x ∂μ, g x ∈ S) :
    μ.map g Sᶜ = 0 := (ae_map_iff hg.aemeasurable hS).2 h

end MTfitVerif.RandomMT
