import Mathlib.Probability.Distributions.Gaussian.Real
/-
  Mathlib's Gaussian density `gaussianPDFReal μ v` takes the variance `v : ℝ≥0`; the model's densities
  take the standard deviation.  `sqNN σ` is `σ²` as a variance, and `gaussianPDFReal_sqNN` Mathlib's
  density written with `σ`.
-/
namespace MTfitVerif
open Real ProbabilityTheory
open scoped NNReal

noncomputable def sqNN (σ : ℝ) : ℝ≥0 := ⟨σ ^ 2, sq_nonneg σ⟩

theorem coe_sqNN (σ : ℝ) : ((sqNN σ : ℝ≥0) : ℝ) = σ ^ 2 := rfl

theorem sqNN_ne_zero {σ : ℝ} (hσ : 0 < σ) : sqNN σ ≠ 0 :=
  fun h => (pow_pos hσ 2).ne' (congrArg NNReal.toReal h)

theorem gaussianPDFReal_sqNN {σ : ℝ} (hσ : 0 < σ) (μ x : ℝ) :
    gaussianPDFReal μ (sqNN σ) x = Real.exp (-(x - μ) ^ 2 / (2 * σ ^ 2)) / (σ * √(2 * π)) := by
  rw [gaussianPDFReal, coe_sqNN, mul_comm (2 * π) (σ ^ 2), Real.sqrt_mul (sq_nonneg σ),
    Real.sqrt_sq hσ.le, ← div_eq_inv_mul]

end MTfitVerif
