import Mathlib.Algebra.BigOperators.Ring.List
import Mathlib.Algebra.Order.BigOperators.Group.List
import Mathlib.Data.Real.Basic
/-
  What the probability-weighted mean of C19 (`get_mean`) and the inverse-variance combination of
  C15 (`combine_mu`) have in common: a mean with non-negative weights lies between the extremes.
-/
namespace MTfitVerif

theorem weightedMean_mem_Icc {ι : Type*} {l : List ι} {w v : ι → ℝ} {lo hi : ℝ} (hw : ∀ i ∈ l, 0 ≤ w i)
    (hpos : 0 < (l.map w).sum) (hv : ∀ i ∈ l, v i ∈ Set.Icc lo hi) :
    (l.map fun i => v i * w i).sum / (l.map w).sum ∈ Set.Icc lo hi := by
  rw [Set.mem_Icc, le_div_iff₀ hpos, div_le_iff₀ hpos, ← List.sum_map_mul_left, ← List.sum_map_mul_left]
  exact ⟨List.sum_le_sum fun i hi => mul_le_mul_of_nonneg_right (hv i hi).1 (hw i hi),
    List.sum_le_sum fun i hi => mul_le_mul_of_nonneg_right (hv i hi).2 (hw i hi)⟩

end MTfitVerif
