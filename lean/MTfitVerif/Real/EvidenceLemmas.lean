import MTfitVerif.Model.Evidence
import MTfitVerif.Real.LogDomainLemmas
/-
  helper lemmas for C10.  `expSum` is `shiftedSum` at `dV = 1`, so the log evidence is a marginal of
  C04 (`lnBE_eq_lnMargCol`); the model probabilities are a softmax (`softmax_shift`); `kl_term_ge` is
  the pointwise inequality behind both Kullback-Leibler results (`gibbs_uniform` for `dklEstimate`,
  `dklTerm_sum_ge` for `dkl`).
-/
namespace MTfitVerif
namespace Evidence
open LogP

theorem expSum_eq_shiftedSum (m : ℝ) (l : List (LogP ℝ)) : expSum m l = LogDomain.shiftedSum m 1 l := by
  induction l with
  | nil => rfl
  | cons x xs ih => cases x <;> simp [LogDomain.shiftedSum, expSum, ih]

theorem lnBE_eq_lnMargCol (ls : List (LogP ℝ)) (n : ℝ) :
    lnBayesianEvidence ls n = subC (LogDomain.lnMargCol ls 1) (Real.log n) := by
  unfold lnBayesianEvidence LogDomain.lnMargCol
  cases maxFin ls <;> simp [expSum_eq_shiftedSum]

theorem expSum_pos {l : List (LogP ℝ)} {m : ℝ} (h : maxFin l = some m) : 0 < expSum m l := by
  rw [expSum_eq_shiftedSum]; exact LogDomain.shiftedSum_pos one_pos h

theorem expSum_nonneg (m : ℝ) (l : List (LogP ℝ)) : 0 ≤ expSum m l := by
  rw [expSum_eq_shiftedSum, LogDomain.shiftedSum_eq, mul_one]
  exact div_nonneg (List.sum_nonneg (List.forall_mem_map.2 fun y _ => toProb_nonneg y))
    (Real.exp_pos m).le

theorem expSum_cons_fin (m v : ℝ) (xs : List (LogP ℝ)) :
    expSum m (fin v :: xs) = Real.exp (v - m) + expSum m xs := rfl

theorem expSum_shift (m k : ℝ) (l : List (LogP ℝ)) :
    expSum (m + k) (l.map (shift · k)) = expSum m l := by
  rw [expSum_eq_shiftedSum, expSum_eq_shiftedSum, LogDomain.shiftedSum_shift]

theorem expSum_eq_fins (m : ℝ) (l : List (LogP ℝ)) :
    expSum m l = ((fins l).map (fun x => Real.exp (x - m))).sum := by
  rw [expSum_eq_shiftedSum, LogDomain.shiftedSum_eq_sum_fins]; simp only [mul_one]

theorem exists_maxFin_of_fins_ne_nil {l : List (LogP ℝ)} (h : fins l ≠ []) :
    ∃ m, maxFin l = some m :=
  Option.ne_none_iff_exists'.1 fun hm => h ((maxFin_eq_none_iff_fins l).1 hm)

theorem sum_exp_sub (m : ℝ) (es : List ℝ) :
    (es.map (fun e => Real.exp (e - m))).sum = Real.exp (-m) * (es.map Real.exp).sum := by
  rw [← List.sum_map_mul_left]
  congr 1
  apply List.map_congr_left
  intro e _
  rw [sub_eq_add_neg, Real.exp_add, mul_comm]

theorem softmax_shift (m e : ℝ) (es : List ℝ) :
    Real.exp (e - m) / (es.map (fun e => Real.exp (e - m))).sum
      = Real.exp e / (es.map Real.exp).sum := by
  rw [sum_exp_sub, sub_eq_add_neg, Real.exp_add, mul_comm (Real.exp e)]
  exact mul_div_mul_left _ _ (Real.exp_pos _).ne'

theorem exp_le_sum_exp {x : ℝ} {xs : List ℝ} (hx : x ∈ xs) : Real.exp x ≤ (xs.map Real.exp).sum :=
  List.single_le_sum (List.forall_mem_map.2 fun y _ => (Real.exp_pos y).le) _
    (List.mem_map_of_mem hx)

theorem sum_exp_pos {es : List ℝ} (h : es ≠ []) : 0 < (es.map Real.exp).sum := by
  obtain ⟨e, he⟩ := List.exists_mem_of_ne_nil es h
  exact (Real.exp_pos e).trans_le (exp_le_sum_exp he)

theorem softmax_sum_one {es : List ℝ} (h : es ≠ []) :
    (es.map (fun e => Real.exp e / (es.map Real.exp).sum)).sum = 1 := by
  have hpos := sum_exp_pos h
  simp only [div_eq_mul_inv]
  rw [List.sum_map_mul_right]
  exact mul_inv_cancel₀ hpos.ne'

theorem softmax_mem_pos_le_one {xs : List ℝ} {w : ℝ}
    (hw : w ∈ xs.map (fun x => Real.exp x / (xs.map Real.exp).sum)) : 0 < w ∧ w ≤ 1 := by
  obtain ⟨x, hx, rfl⟩ := List.mem_map.mp hw
  have hpos := sum_exp_pos (List.ne_nil_of_mem hx)
  exact ⟨div_pos (Real.exp_pos x) hpos, (div_le_one hpos).2 (exp_le_sum_exp hx)⟩

theorem dklEstimate_pointwise {S V N : ℝ} (hS : 0 < S) (hV : 0 < V) (hN : 0 < N) (a m : ℝ) :
    ((a - m - Real.log (S * (V / N))) * (Real.exp (a - m) / (S * (V / N)))
        + Real.exp (a - m) / (S * (V / N)) * Real.log V) * (V / N)
      = (Real.exp (a - m) / S) * Real.log (Real.exp (a - m) / S)
        + Real.log N * (Real.exp (a - m) / S) := by
  have hd : V / N ≠ 0 := (div_pos hV hN).ne'
  rw [Real.log_div (Real.exp_pos _).ne' hS.ne', Real.log_exp, Real.log_mul hS.ne' hd,
    Real.log_div hV.ne' hN.ne', ← div_div, mul_comm _ (Real.log V), ← add_mul, mul_assoc,
    div_mul_cancel₀ _ hd]
  ring

theorem sum_mul_log_nonpos (ws : List ℝ) (h : ∀ w ∈ ws, 0 < w ∧ w ≤ 1) :
    (ws.map (fun w => w * Real.log w)).sum ≤ 0 := by
  refine (List.sum_le_card_nsmul _ 0 (List.forall_mem_map.2 fun w hw => ?_)).trans (smul_zero _).le
  exact mul_nonpos_of_nonneg_of_nonpos (h w hw).1.le (Real.log_nonpos (h w hw).1.le (h w hw).2)

theorem kl_term_ge {P Q : ℝ} (hP : 0 < P) (hQ : 0 < Q) :
    P - Q ≤ Real.log P * P - Real.log Q * P := by
  have h := Real.log_le_sub_one_of_pos (div_pos hQ hP)
  rw [Real.log_div hQ.ne' hP.ne', div_sub_one hP.ne', le_div_iff₀ hP, sub_mul] at h
  simpa only [neg_sub] using neg_le_neg h

/-- Gibbs' inequality against the uniform distribution on `N` points, in unnormalised form. -/
theorem gibbs_uniform {N : ℝ} (hN : 0 < N) (ws : List ℝ) (hpos : ∀ w ∈ ws, 0 < w) :
    ws.sum - ws.length / N ≤ (ws.map (fun w => w * Real.log w)).sum + Real.log N * ws.sum := by
  induction ws with
  | nil => simp
  | cons w ws ih =>
    have h := kl_term_ge (hpos w List.mem_cons_self) (inv_pos.2 hN)
    rw [Real.log_inv, neg_mul, sub_neg_eq_add, mul_comm (Real.log w)] at h
    rw [List.map_cons, List.sum_cons, List.sum_cons, List.length_cons, Nat.cast_succ, add_div,
      one_div, mul_add, add_add_add_comm, add_comm (_ / N), add_sub_add_comm]
    exact add_le_add h (ih fun v hv => hpos v (List.mem_cons_of_mem _ hv))

/-- one summand of `dkl` with the shifts and normalisations as parameters -/
noncomputable def dklTerm (mp mq np nq : ℝ) : LogP ℝ × LogP ℝ → Option ℝ
  | (negInf, _) => some 0
  | (fin _, negInf) => none
  | (fin p, fin q) =>
    some ((p - mp - Real.log np) * (Real.exp (p - mp) / np)
      - (q - mq - Real.log nq) * (Real.exp (p - mp) / np))

@[simp] theorem dklTerm_negInf (mp mq np nq : ℝ) (b : LogP ℝ) :
    dklTerm mp mq np nq (negInf, b) = some 0 := rfl
@[simp] theorem dklTerm_fin_negInf (mp mq np nq p : ℝ) :
    dklTerm mp mq np nq (fin p, negInf) = none := rfl
@[simp] theorem dklTerm_fin_fin (mp mq np nq p q : ℝ) :
    dklTerm mp mq np nq (fin p, fin q)
      = some ((p - mp - Real.log np) * (Real.exp (p - mp) / np)
        - (q - mq - Real.log nq) * (Real.exp (p - mp) / np)) := rfl

theorem dkl_eq_of_maxFin {pq : List (LogP ℝ × LogP ℝ)} {mp mq : ℝ} (dV : ℝ)
    (hp : maxFin (pq.map (·.1)) = some mp) (hq : maxFin (pq.map (·.2)) = some mq) :
    dkl pq dV = (pq.mapM (dklTerm mp mq (expSum mp (pq.map (·.1)) * dV)
      (expSum mq (pq.map (·.2)) * dV))).map (fun ts => ts.sum * dV) := by
  unfold dkl
  simp only [hp, hq]
  congr 1
  · funext ts; rw [sumL_eq]
  · congr 1
    funext x
    rcases x with ⟨_ | p, _ | q⟩
    exacts [congrArg some Nat.cast_zero, congrArg some Nat.cast_zero, rfl, rfl]

theorem dkl_some_maxFin {pq : List (LogP ℝ × LogP ℝ)} {dV d : ℝ} (h : dkl pq dV = some d) :
    ∃ mp mq, maxFin (pq.map (·.1)) = some mp ∧ maxFin (pq.map (·.2)) = some mq := by
  unfold dkl at h
  cases hp : maxFin (pq.map (·.1)) with
  | none => simp [hp] at h
  | some mp =>
    cases hq : maxFin (pq.map (·.2)) with
    | none => simp [hp, hq] at h
    | some mq => exact ⟨mp, mq, rfl, rfl⟩

theorem kl_exp_ge {n k : ℝ} (hn : 0 < n) (hk : 0 < k) (a b : ℝ) :
    Real.exp a / n - Real.exp b / k
      ≤ (a - Real.log n) * (Real.exp a / n) - (b - Real.log k) * (Real.exp a / n) := by
  have h := kl_term_ge (div_pos (Real.exp_pos a) hn) (div_pos (Real.exp_pos b) hk)
  rwa [Real.log_div (Real.exp_pos _).ne' hn.ne', Real.log_div (Real.exp_pos _).ne' hk.ne',
    Real.log_exp, Real.log_exp] at h

theorem dklTerm_sum_ge {mp mq np nq : ℝ} (hnp : 0 < np) (hnq : 0 < nq) :
    ∀ (pq : List (LogP ℝ × LogP ℝ)) (ts : List ℝ),
      pq.mapM (dklTerm mp mq np nq) = some ts →
      expSum mp (pq.map (·.1)) / np - expSum mq (pq.map (·.2)) / nq ≤ ts.sum := by
  intro pq
  induction pq with
  | nil =>
    intro ts h
    cases h; simp [expSum]
  | cons x xs ih =>
    intro ts h
    rw [List.mapM_cons] at h
    simp only [Option.bind_eq_bind, Option.pure_def, Option.bind_eq_some_iff,
      Option.some.injEq] at h
    obtain ⟨t, ht, ts', hts', rfl⟩ := h
    have hxs := ih ts' hts'
    rw [List.sum_cons]
    rcases x with ⟨_ | p, _ | q⟩ <;> cases ht
    · rwa [zero_add]
    · have hq : 0 ≤ Real.exp (q - mq) / nq := (div_pos (Real.exp_pos _) hnq).le
      rw [List.map_cons, List.map_cons, expSum_cons_fin, add_div, zero_add]
      exact (sub_le_sub_left (le_add_of_nonneg_left hq) _).trans hxs
    · rw [List.map_cons, List.map_cons, expSum_cons_fin, expSum_cons_fin, add_div, add_div,
        add_sub_add_comm]
      exact add_le_add (kl_exp_ge hnp hnq (p - mp) (q - mq)) hxs

theorem dklTerm_self (m n : ℝ) (p : List (LogP ℝ)) :
    (p.map (fun x => (x, x))).mapM (dklTerm m m n n) = some (p.map (fun _ => (0 : ℝ))) := by
  induction p with
  | nil => simp
  | cons x xs ih =>
    rw [List.map_cons, List.mapM_cons, ih]
    cases x with
    | negInf => simp
    | fin v => simp

end Evidence
end MTfitVerif
