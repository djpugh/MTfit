import MTfitVerif.Model.LogP
import MTfitVerif.Model.Evidence
import MTfitVerif.Real.Inst
/-
  Semantics of `LogP ℝ`: the probability a log-value denotes, and the lemmas about
  `shift`, `subC`, `add`, `sum`, `ofProb`, `maxFin`.
-/
namespace MTfitVerif
namespace LogP

/-- the probability denoted by a log-probability (`-∞ ↦ 0`) -/
noncomputable def toProb : LogP ℝ → ℝ
  | negInf => 0
  | fin x => Real.exp x

@[simp] theorem toProb_negInf : toProb (negInf : LogP ℝ) = 0 := rfl
@[simp] theorem toProb_fin (x : ℝ) : toProb (fin x) = Real.exp x := rfl

theorem toProb_nonneg (x : LogP ℝ) : 0 ≤ toProb x := by
  cases x
  exacts [le_rfl, (Real.exp_pos _).le]

theorem toProb_eq_zero_iff (x : LogP ℝ) : toProb x = 0 ↔ x = negInf := by
  cases x with
  | negInf => simp
  | fin v => simp [(Real.exp_pos v).ne']

theorem toProb_pos_iff (x : LogP ℝ) : 0 < toProb x ↔ isFin x = true := by
  cases x with
  | negInf => simp [isFin]
  | fin v => simp [isFin, Real.exp_pos]

@[simp] theorem expF_eq (x : LogP ℝ) : expF x = toProb x := by
  cases x <;> simp [expF]

@[simp] theorem subC_negInf (k : ℝ) : subC (negInf : LogP ℝ) k = negInf := rfl
@[simp] theorem subC_fin (v k : ℝ) : subC (fin v) k = fin (v - k) := rfl
@[simp] theorem shift_negInf (k : ℝ) : shift (negInf : LogP ℝ) k = negInf := rfl
@[simp] theorem shift_fin (v k : ℝ) : shift (fin v) k = fin (v + k) := rfl

@[simp] theorem subC_zero (x : LogP ℝ) : subC x 0 = x := by
  cases x <;> simp

@[simp] theorem subC_eq_negInf {x : LogP ℝ} {k : ℝ} : subC x k = negInf ↔ x = negInf := by
  cases x <;> simp

theorem isFin_subC (x : LogP ℝ) (k : ℝ) : isFin (subC x k) = isFin x := by
  cases x <;> rfl

theorem toProb_shift (x : LogP ℝ) (k : ℝ) : toProb (shift x k) = toProb x * Real.exp k := by
  cases x <;> simp [Real.exp_add]

theorem toProb_subC (x : LogP ℝ) (k : ℝ) : toProb (subC x k) = toProb x / Real.exp k := by
  cases x <;> simp [Real.exp_sub]

theorem shift_subC_comm (x : LogP ℝ) (k c : ℝ) : subC (shift x k) c = shift (subC x c) k := by
  cases x <;> simp [add_sub_right_comm]

/-! ### `add`, `sum`: a commutative monoid with `negInf` absorbing

Under `open LogP` unprimed `add_comm`, `add_assoc` would clash with the root lemmas. -/

theorem add_comm' (x y : LogP ℝ) : add x y = add y x := by
  cases x <;> cases y <;> simp [add, add_comm]

theorem add_assoc' (x y z : LogP ℝ) : add (add x y) z = add x (add y z) := by
  cases x <;> cases y <;> cases z <;> simp [add, add_assoc]

instance : Std.Associative (α := LogP ℝ) add := ⟨add_assoc'⟩
instance : Std.Commutative (α := LogP ℝ) add := ⟨add_comm'⟩

@[simp] theorem add_fin_zero (x : LogP ℝ) : add x (fin 0) = x := by
  cases x <;> simp [add]

@[simp] theorem fin_zero_add (x : LogP ℝ) : add (fin 0) x = x := by
  cases x <;> simp [add]

@[simp] theorem add_negInf (x : LogP ℝ) : add x negInf = negInf := by
  cases x <;> simp [add]

@[simp] theorem negInf_add (x : LogP ℝ) : add negInf x = negInf := by
  cases x <;> simp [add]

theorem add_eq_negInf_iff (x y : LogP ℝ) : add x y = negInf ↔ x = negInf ∨ y = negInf := by
  cases x <;> cases y <;> simp [add]

theorem toProb_add (x y : LogP ℝ) : toProb (add x y) = toProb x * toProb y := by
  cases x <;> cases y <;> simp [add, Real.exp_add]

@[simp] theorem sum_nil : sum ([] : List (LogP ℝ)) = fin 0 := by
  simp [sum]

@[simp] theorem sum_cons (x : LogP ℝ) (xs : List (LogP ℝ)) : sum (x :: xs) = add x (sum xs) := rfl

theorem sum_append (l₁ l₂ : List (LogP ℝ)) : sum (l₁ ++ l₂) = add (sum l₁) (sum l₂) := by
  induction l₁ with
  | nil => simp
  | cons x xs ih => simp [ih, add_assoc']

theorem foldl_add_eq {β : Type} (f : β → LogP ℝ) (l : List β) (acc : LogP ℝ) :
    l.foldl (fun a e => add a (f e)) acc = add acc (sum (l.map f)) := by
  induction l generalizing acc with
  | nil => simp
  | cons x xs ih => simp [ih, add_assoc']

theorem sum_eq_fin_zero {l : List (LogP ℝ)} (h : ∀ x ∈ l, x = fin 0) : sum l = fin 0 := by
  induction l with
  | nil => simp
  | cons x xs ih =>
    rw [sum_cons, h x List.mem_cons_self, ih fun y hy => h y (List.mem_cons_of_mem _ hy),
      add_fin_zero]

theorem sum_perm {l₁ l₂ : List (LogP ℝ)} (h : l₁.Perm l₂) : sum l₁ = sum l₂ := by
  induction h with
  | nil => rfl
  | cons x _ ih => simp only [sum, ih]
  | swap x y l => simp only [sum]; rw [← add_assoc', add_comm' y, add_assoc']
  | trans _ _ ih₁ ih₂ => exact ih₁.trans ih₂

theorem toProb_sum (l : List (LogP ℝ)) : toProb (sum l) = (l.map toProb).prod := by
  induction l with
  | nil => simp
  | cons x xs ih => simp [toProb_add, ih]

theorem sum_eq_negInf_iff (l : List (LogP ℝ)) : sum l = negInf ↔ negInf ∈ l := by
  induction l with
  | nil => simp
  | cons x xs ih => rw [sum_cons, add_eq_negInf_iff, ih, List.mem_cons, eq_comm]

theorem toProb_ofProb {p : ℝ} (hp : 0 ≤ p) : toProb (ofProb p) = p := by
  unfold ofProb
  simp only [flt_leb, flt_c, Nat.cast_zero, decide_eq_true_eq, flt_log]
  split_ifs with h
  · exact hp.antisymm h
  · exact Real.exp_log (not_le.mp h)

theorem ofProb_eq_negInf_iff (p : ℝ) : ofProb p = negInf ↔ p ≤ 0 := by
  unfold ofProb
  simp only [flt_leb, flt_c, Nat.cast_zero, decide_eq_true_eq]
  split <;> simp [*]

theorem toProb_sum_ofProb {β} (l : List β) (f : β → ℝ) (h : ∀ s ∈ l, 0 ≤ f s) :
    toProb (LogP.sum (l.map fun s => ofProb (f s))) = (l.map f).prod := by
  rw [toProb_sum, List.map_map]
  exact congrArg _ (List.map_congr_left fun s hs => toProb_ofProb (h s hs))

theorem sum_ofProb_eq_negInf_iff {β} (l : List β) (f : β → ℝ) :
    LogP.sum (l.map fun s => ofProb (f s)) = negInf ↔ ∃ s ∈ l, f s ≤ 0 := by
  rw [sum_eq_negInf_iff, List.mem_map]
  exact exists_congr fun s => and_congr_right fun _ => ofProb_eq_negInf_iff _

theorem maxFin_fin_cons (v : ℝ) (xs : List (LogP ℝ)) :
    maxFin (fin v :: xs) = some ((maxFin xs).elim v (max v)) := by
  rw [maxFin]
  cases maxFin xs with
  | none => rfl
  | some m => exact congrArg some (fmax_eq v m)

theorem maxFin_eq_maximum (l : List (LogP ℝ)) :
    (maxFin l : WithBot ℝ) = (Evidence.fins l).maximum := by
  induction l with
  | nil => rfl
  | cons x xs ih =>
    cases x with
    | negInf => exact ih
    | fin v =>
      show (maxFin (fin v :: xs) : WithBot ℝ) = (v :: Evidence.fins xs).maximum
      rw [maxFin_fin_cons, List.maximum_cons, ← ih]
      cases maxFin xs with
      | none => exact (max_bot_right (a := (v : WithBot ℝ))).symm
      | some m => exact WithBot.coe_max v m

end LogP

namespace Evidence
open LogP

theorem mem_fins {v : ℝ} {l : List (LogP ℝ)} : v ∈ fins l ↔ fin v ∈ l := by
  induction l with
  | nil => simp [fins]
  | cons x xs ih => cases x <;> simp [fins, ih]

theorem maxFin_eq_none_iff_fins (l : List (LogP ℝ)) : maxFin l = none ↔ fins l = [] :=
  (maxFin_eq_maximum l).symm ▸ List.maximum_eq_bot (l := fins l)

theorem sum_toProb_eq_fins (l : List (LogP ℝ)) :
    (l.map toProb).sum = ((fins l).map Real.exp).sum := by
  induction l with
  | nil => simp [fins]
  | cons x xs ih => cases x <;> simp [fins, ih]

end Evidence

namespace LogP

theorem maxFin_eq_none_iff {l : List (LogP ℝ)} : maxFin l = none ↔ ∀ x ∈ l, x = negInf := by
  rw [Evidence.maxFin_eq_none_iff_fins, List.eq_nil_iff_forall_not_mem]
  simp only [Evidence.mem_fins]
  exact ⟨fun h x hx => by cases x with | negInf => rfl | fin v => exact absurd hx (h v),
    fun h v hv => nomatch h _ hv⟩

theorem maxFin_eq_some_iff {l : List (LogP ℝ)} {m : ℝ} :
    maxFin l = some m ↔ fin m ∈ l ∧ ∀ v, fin v ∈ l → v ≤ m := by
  simp only [← Evidence.mem_fins]
  exact (maxFin_eq_maximum l).symm ▸ List.maximum_eq_coe_iff

theorem maxFin_perm {l₁ l₂ : List (LogP ℝ)} (h : l₁.Perm l₂) : maxFin l₁ = maxFin l₂ :=
  Option.ext fun m => by simp only [maxFin_eq_some_iff, h.mem_iff]

theorem maxFin_shift (l : List (LogP ℝ)) (k : ℝ) :
    maxFin (l.map (shift · k)) = (maxFin l).map (· + k) := by
  induction l with
  | nil => rfl
  | cons x xs ih =>
    cases x with
    | negInf => exact ih
    | fin v =>
      rw [List.map_cons, shift_fin, maxFin_fin_cons, maxFin_fin_cons, ih]
      cases maxFin xs with
      | none => rfl
      | some m => exact congrArg some (max_add_add_right v m k)

/-! ### the mass `(l.map toProb).sum` of a slice -/

theorem toProb_le_sum {l : List (LogP ℝ)} {x : LogP ℝ} (h : x ∈ l) :
    toProb x ≤ (l.map toProb).sum :=
  List.single_le_sum (List.forall_mem_map.2 fun y _ => toProb_nonneg y) _ (List.mem_map_of_mem h)

theorem sum_toProb_eq_zero {l : List (LogP ℝ)} (h : ∀ x ∈ l, x = negInf) :
    (l.map toProb).sum = 0 :=
  List.sum_eq_zero (List.forall_mem_map.2 fun y hy => by rw [h y hy]; rfl)

theorem sum_toProb_le {l : List (LogP ℝ)} {M : ℝ} (h : ∀ x ∈ l, toProb x ≤ M) :
    (l.map toProb).sum ≤ l.length * M := by
  have := List.sum_le_card_nsmul (l.map toProb) M (List.forall_mem_map.2 h)
  rwa [List.length_map, nsmul_eq_mul] at this

theorem sum_toProb_shift (l : List (LogP ℝ)) (k : ℝ) :
    ((l.map (shift · k)).map toProb).sum = (l.map toProb).sum * Real.exp k := by
  rw [List.map_map, ← List.sum_map_mul_right]
  exact congrArg _ (List.map_congr_left fun x _ => toProb_shift x k)

end LogP
end MTfitVerif
