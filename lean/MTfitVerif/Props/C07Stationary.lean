import MTfitVerif.Props.C05
import MTfitVerif.Real.StationaryLemmas
import MTfitVerif.Real.StationaryModelLemmas
import Mathlib.LinearAlgebra.Matrix.Stochastic
/-
  C07 (stationarity half) — detailed balance ⇒ the posterior is stationary for the
  Metropolis–Hastings kernel, i.e. "the recorded chain is a sample of the posterior" in the sense
  that once the current state is posterior-distributed every later recorded state is: on a general
  state space with densities w.r.t. an s-finite reference measure (A), on a finite state space
  (B), and for the model, whose acceptance `acceptMH`, proposal density `transPdf` and posterior
  `prior × exp (ln-likelihood)` satisfy the detailed-balance hypothesis of A and B (C).
-/
namespace MTfitVerif.C07
open LogP Acceptance Stationary
open MeasureTheory ProbabilityTheory
open scoped ENNReal

/-! ## A. general state space -/
section General
variable {X : Type*} [MeasurableSpace X] (lam : Measure X) [SFinite lam]
  {π : X → ℝ≥0∞} {q a : X → X → ℝ≥0∞}

theorem mhKernel_isMarkov (hq : Measurable (Function.uncurry q))
    (ha : Measurable (Function.uncurry a)) (hqn : ∀ x, ∫⁻ y, q x y ∂lam = 1)
    (ha1 : ∀ x y, a x y ≤ 1) : IsMarkovKernel (mhKernel lam q a) := by
  refine ⟨fun x => ⟨?_⟩⟩
  rw [mhKernel_apply hq ha x MeasurableSet.univ, mhK_eq, Measure.restrict_univ]
  simp only [Set.indicator_univ, Pi.one_apply, mul_one]
  exact add_tsub_cancel_of_le (lintegral_qa_le_one hqn ha1 x)

/-- **Detailed balance ⇒ the measure with density `π` is invariant** for the
    Metropolis–Hastings `Kernel` (Mathlib's `Kernel.Invariant`: `μ.bind κ = μ`) -/
theorem mhKernel_invariant (hπ : Measurable π) (hq : Measurable (Function.uncurry q))
    (ha : Measurable (Function.uncurry a)) (hqn : ∀ x, ∫⁻ y, q x y ∂lam = 1)
    (ha1 : ∀ x y, a x y ≤ 1) (hdb : ∀ x y, π x * q x y * a x y = π y * q y x * a y x) :
    Kernel.Invariant (mhKernel lam q a) (lam.withDensity π) :=
  have := mhKernel_isMarkov lam hq ha hqn ha1
  (mhKernel_isReversible lam hπ hq ha hdb).invariant

/-- **Detailed balance ⇒ stationarity** (set-function form).  `lam` is the reference measure
    (s-finite; every σ-finite measure is), `π` the unnormalised target density, `q x y` the density
    of proposing `y` from `x`, `a x y` the acceptance probability; `mhK lam q a x B` is the
    probability of being in `B` after one step from `x` (move with probability `a`, otherwise the
    current state is recorded again).  No finiteness of `π` is needed. -/
theorem mh_stationary (hπ : Measurable π) (hq : Measurable (Function.uncurry q))
    (ha : Measurable (Function.uncurry a)) (hqn : ∀ x, ∫⁻ y, q x y ∂lam = 1)
    (ha1 : ∀ x y, a x y ≤ 1) (hdb : ∀ x y, π x * q x y * a x y = π y * q y x * a y x)
    {B : Set X} (hB : MeasurableSet B) :
    ∫⁻ x, π x * mhK lam q a x B ∂lam = ∫⁻ x in B, π x ∂lam := by
  simp only [← mhKernel_apply hq ha _ hB]
  exact (invariant_withDensity_iff hπ).mp (mhKernel_invariant lam hπ hq ha hqn ha1 hdb) B hB

/-- **`n` steps**: pushing the measure with density `π` through the kernel any number of times
    gives it back -/
theorem mh_stationary_iterate (hπ : Measurable π) (hq : Measurable (Function.uncurry q))
    (ha : Measurable (Function.uncurry a)) (hqn : ∀ x, ∫⁻ y, q x y ∂lam = 1)
    (ha1 : ∀ x y, a x y ≤ 1) (hdb : ∀ x y, π x * q x y * a x y = π y * q y x * a y x) (n : ℕ) :
    (fun μ : Measure X => μ.bind (mhKernel lam q a))^[n] (lam.withDensity π) = lam.withDensity π :=
  invariant_iterate (mhKernel_invariant lam hπ hq ha hqn ha1 hdb) n

/-- … in particular the law of the state after `n` steps gives every measurable set its
    posterior mass -/
theorem mh_stationary_iterate_apply (hπ : Measurable π) (hq : Measurable (Function.uncurry q))
    (ha : Measurable (Function.uncurry a)) (hqn : ∀ x, ∫⁻ y, q x y ∂lam = 1)
    (ha1 : ∀ x y, a x y ≤ 1) (hdb : ∀ x y, π x * q x y * a x y = π y * q y x * a y x) (n : ℕ)
    {B : Set X} (hB : MeasurableSet B) :
    ((fun μ : Measure X => μ.bind (mhKernel lam q a))^[n] (lam.withDensity π)) B
      = ∫⁻ x in B, π x ∂lam :=
  invariant_iterate_apply (mhKernel_invariant lam hπ hq ha hqn ha1 hdb) n hB

end General

/-! ## B. finite state space -/
section Finite
open Matrix
variable {S : Type*} [Fintype S] [DecidableEq S]

/-- stationarity for all powers of the transition matrix (detailed balance alone) -/
theorem mhMatrix_pow_stationary {π : S → ℝ} {q a : S → S → ℝ}
    (hdb : ∀ x y, π x * q x y * a x y = π y * q y x * a y x) (n : ℕ) :
    π ᵥ* mhMatrix q a ^ n = π := by
  have h1 : π ᵥ* mhMatrix q a = π := funext fun y => mhMatrix_stationary hdb y
  induction n with
  | zero => rw [pow_zero, Matrix.vecMul_one]
  | succ n ih => rw [pow_succ', ← Matrix.vecMul_vecMul, h1, ih]

/-- every power of the transition matrix is a stochastic matrix (`n`-step transition
    probabilities) -/
theorem mhMatrix_pow_stochastic {q a : S → S → ℝ} (hq0 : ∀ x y, 0 ≤ q x y)
    (hqn : ∀ x, ∑ y, q x y ≤ 1) (ha0 : ∀ x y, 0 ≤ a x y) (ha1 : ∀ x y, a x y ≤ 1) (n : ℕ) :
    (∀ x y, 0 ≤ (mhMatrix q a ^ n) x y) ∧ ∀ x, ∑ y, (mhMatrix q a ^ n) x y = 1 :=
  mem_rowStochastic_iff_sum.mp <| pow_mem
    (mem_rowStochastic_iff_sum.mpr ⟨mhMatrix_nonneg hq0 hqn ha0 ha1, mhMatrix_row_sum q a⟩) n

/-- **Finite state space, sub-stochastic proposal**: if the proposal weights `q x ·` sum to at
    most 1 (the missing mass is a proposal that is never accepted, i.e. "stay"), the transition
    matrix `P x y = q x y * a x y + (if x = y then 1 - ∑ z, q x z * a x z else 0)` is
    row-stochastic with non-negative entries, `π` is stationary and stays so under every power.
    (`0 ≤ π` is not needed.) -/
theorem mh_finite_stationary_sub (π : S → ℝ) (q a : S → S → ℝ) (hq0 : ∀ x y, 0 ≤ q x y)
    (hqn : ∀ x, ∑ y, q x y ≤ 1) (ha0 : ∀ x y, 0 ≤ a x y) (ha1 : ∀ x y, a x y ≤ 1)
    (hdb : ∀ x y, π x * q x y * a x y = π y * q y x * a y x) :
    (∀ x y, 0 ≤ mhMatrix q a x y) ∧ (∀ x, ∑ y, mhMatrix q a x y = 1) ∧
    (∀ y, ∑ x, π x * mhMatrix q a x y = π y) ∧ ∀ n : ℕ, π ᵥ* mhMatrix q a ^ n = π :=
  ⟨mhMatrix_nonneg hq0 hqn ha0 ha1, mhMatrix_row_sum q a, mhMatrix_stationary hdb,
    mhMatrix_pow_stationary hdb⟩

/-- **Finite state space**: rows of `q` summing to 1, `0 ≤ a ≤ 1`, detailed balance ⇒ the
    Metropolis–Hastings transition matrix is row-stochastic with non-negative entries,
    `∑ x, π x * P x y = π y`, and `π ᵥ* P ^ n = π` for every `n`. -/
theorem mh_finite_stationary (π : S → ℝ) (q a : S → S → ℝ) (hq0 : ∀ x y, 0 ≤ q x y)
    (hqn : ∀ x, ∑ y, q x y = 1) (ha0 : ∀ x y, 0 ≤ a x y) (ha1 : ∀ x y, a x y ≤ 1)
    (hdb : ∀ x y, π x * q x y * a x y = π y * q y x * a y x) :
    (∀ x y, 0 ≤ mhMatrix q a x y) ∧ (∀ x, ∑ y, mhMatrix q a x y = 1) ∧
    (∀ y, ∑ x, π x * mhMatrix q a x y = π y) ∧ ∀ n : ℕ, π ᵥ* mhMatrix q a ^ n = π :=
  mh_finite_stationary_sub π q a hq0 (fun x => (hqn x).le) ha0 ha1 hdb

end Finite

/-- a concrete two-state chain satisfying every hypothesis of `mh_finite_stationary`:
    target `π = (1, 2)`, uniform proposal `q = 1/2`, acceptance `a x y = min 1 (π y / π x)` -/
example :
    let π : Fin 2 → ℝ := ![1, 2]
    let q : Fin 2 → Fin 2 → ℝ := fun _ _ => 1 / 2
    let a : Fin 2 → Fin 2 → ℝ := !![1, 1; 1 / 2, 1]
    (∀ x, 0 ≤ π x) ∧ (∀ x y, 0 ≤ q x y) ∧ (∀ x, ∑ y, q x y = 1) ∧ (∀ x y, 0 ≤ a x y) ∧
    (∀ x y, a x y ≤ 1) ∧ (∀ x y, π x * q x y * a x y = π y * q y x * a y x) ∧
    ∀ n : ℕ, Matrix.vecMul π (mhMatrix q a ^ n) = π := by
  intro π q a
  have hq0 : ∀ x y, 0 ≤ q x y := fun _ _ => by norm_num [q]
  have hqn : ∀ x, ∑ y, q x y = 1 := fun _ => by norm_num [q]
  have ha : ∀ x y, 0 ≤ a x y ∧ a x y ≤ 1 := by
    simp only [Fin.forall_fin_two, a, Matrix.cons_val_zero, Matrix.cons_val_one, Matrix.of_apply]
    norm_num
  have hdb : ∀ x y, π x * q x y * a x y = π y * q y x * a y x := by
    simp only [Fin.forall_fin_two, π, q, a, Matrix.cons_val_zero, Matrix.cons_val_one,
      Matrix.of_apply]
    norm_num
  refine ⟨?_, hq0, hqn, fun x y => (ha x y).1, fun x y => (ha x y).2, hdb,
    (mh_finite_stationary π q a hq0 hqn (fun x y => (ha x y).1) (fun x y => (ha x y).2) hdb).2.2.2⟩
  simp only [Fin.forall_fin_two, π, Matrix.cons_val_zero, Matrix.cons_val_one]
  norm_num

/-! ## C. the model's acceptance, proposal and posterior -/
section Model
variable (prior : Bool → Tape ℝ → ℝ) (dc : Bool) (w : Widths ℝ) (L : Tape ℝ → LogP ℝ)

/-- unnormalised posterior density of the single-event sampler: sampling prior × likelihood
    (`toProb (fin l) = exp l`, `toProb negInf = 0`) -/
noncomputable def post (x : Tape ℝ) : ℝ := prior dc x * toProb (L x)

/-- proposal density `q x y`: density of proposing `y` from the current state `x`
    (`transPdf dc w y x`: the model's first state argument is the proposed state) -/
noncomputable def propPdf (x y : Tape ℝ) : ℝ := transPdf dc w y x

/-- acceptance probability `a x y` of the proposal `y` from the current state `x`
    (`acceptMH`: current state and its log-likelihood first, proposal second) -/
noncomputable def acc (x y : Tape ℝ) : ℝ := acceptMH prior dc w x y (L x) (L y)

/-- `C05.mh_detailed_balance` extended to log-likelihoods that may be `-∞`: a zero-likelihood
    proposal is never accepted and a zero-likelihood state carries no mass -/
theorem mh_detailed_balance_logP (hp : ∀ b t, 0 ≤ prior b t) (hw : C05.WidthsPos w)
    (xi x : Tape ℝ) (Lxi Lx : LogP ℝ) :
    prior dc xi * toProb Lxi * transPdf dc w x xi * acceptMH prior dc w xi x Lxi Lx
      = prior dc x * toProb Lx * transPdf dc w xi x * acceptMH prior dc w x xi Lx Lxi :=
  acceptMH_balance prior dc w (hp dc xi) (hp dc x) (C05.transPdf_pos dc w hw x xi)
    (C05.transPdf_pos dc w hw xi x) Lxi Lx

/-- **the model satisfies the detailed-balance hypothesis of A and B** -/
theorem model_detailed_balance (hp : ∀ b t, 0 ≤ prior b t) (hw : C05.WidthsPos w) (x y : Tape ℝ) :
    post prior dc L x * propPdf dc w x y * acc prior dc w L x y
      = post prior dc L y * propPdf dc w y x * acc prior dc w L y x :=
  mh_detailed_balance_logP prior dc w hp hw x y (L x) (L y)

theorem post_nonneg (hp : ∀ b t, 0 ≤ prior b t) (x : Tape ℝ) : 0 ≤ post prior dc L x :=
  mul_nonneg (hp dc x) (toProb_nonneg _)

theorem propPdf_pos (hw : C05.WidthsPos w) (x y : Tape ℝ) : 0 < propPdf dc w x y :=
  C05.transPdf_pos dc w hw y x

theorem acc_mem_Icc (hp : ∀ b t, 0 ≤ prior b t) (hw : C05.WidthsPos w) (x y : Tape ℝ) :
    0 ≤ acc prior dc w L x y ∧ acc prior dc w L x y ≤ 1 :=
  C05.acceptMH_mem_Icc prior hp dc w hw x y (L x) (L y)

/-- **Finite set of states with cell volumes**: states `st s`, cell volumes `vol s ≥ 0`; the
    target gives the cell `s` the mass `post (st s) * vol s`, the proposal proposes the cell `t`
    from `s` with probability `propPdf (st s) (st t) * vol t` (assumed to sum to at most 1 over
    `t`), and the acceptance is the model's.  Then the Metropolis–Hastings transition matrix is
    stochastic and the posterior masses are stationary for every number of steps. -/
theorem mh_chain_posterior_stationary_cells {S : Type*} [Fintype S] [DecidableEq S]
    (hp : ∀ b t, 0 ≤ prior b t) (hw : C05.WidthsPos w) (st : S → Tape ℝ) (vol : S → ℝ)
    (hvol : ∀ s, 0 ≤ vol s) (hrow : ∀ s, ∑ t, propPdf dc w (st s) (st t) * vol t ≤ 1) :
    let π : S → ℝ := fun s => post prior dc L (st s) * vol s
    let P : Matrix S S ℝ := mhMatrix (fun s t => propPdf dc w (st s) (st t) * vol t)
      (fun s t => acc prior dc w L (st s) (st t))
    (∀ s, 0 ≤ π s) ∧ (∀ s t, 0 ≤ P s t) ∧ (∀ s, ∑ t, P s t = 1) ∧
    (∀ t, ∑ s, π s * P s t = π t) ∧ ∀ n : ℕ, Matrix.vecMul π (P ^ n) = π := by
  intro π P
  refine ⟨fun s => mul_nonneg (post_nonneg prior dc L hp _) (hvol s), ?_⟩
  refine mh_finite_stationary_sub π _ _
    (fun s t => mul_nonneg (propPdf_pos dc w hw _ _).le (hvol t)) hrow
    (fun s t => (acc_mem_Icc prior dc w L hp hw _ _).1)
    (fun s t => (acc_mem_Icc prior dc w L hp hw _ _).2) fun s t => ?_
  have h := model_detailed_balance prior dc w L hp hw (st s) (st t)
  show post prior dc L (st s) * vol s * (propPdf dc w (st s) (st t) * vol t) * _
    = post prior dc L (st t) * vol t * (propPdf dc w (st t) (st s) * vol s) * _
  linear_combination vol s * vol t * h

/-- **The recorded chain samples the posterior (finite set of states)**: with
    `π x = prior x * exp (L x)`, `q x y = transPdf dc w y x` (rows summing to 1 over the set of
    states) and the model's `acceptMH` as acceptance, the Metropolis–Hastings transition matrix
    "accept with probability `a`, otherwise record the current state again" is stochastic and
    leaves `π` stationary, for every number of steps. -/
theorem mh_chain_posterior_stationary {S : Type*} [Fintype S] [DecidableEq S]
    (hp : ∀ b t, 0 ≤ prior b t) (hw : C05.WidthsPos w) (st : S → Tape ℝ)
    (hrow : ∀ s, ∑ t, transPdf dc w (st t) (st s) = 1) :
    let π : S → ℝ := fun s => prior dc (st s) * toProb (L (st s))
    let P : Matrix S S ℝ := mhMatrix (fun s t => transPdf dc w (st t) (st s))
      (fun s t => acceptMH prior dc w (st s) (st t) (L (st s)) (L (st t)))
    (∀ s, 0 ≤ π s) ∧ (∀ s t, 0 ≤ P s t) ∧ (∀ s, ∑ t, P s t = 1) ∧
    (∀ t, ∑ s, π s * P s t = π t) ∧ ∀ n : ℕ, Matrix.vecMul π (P ^ n) = π :=
  ⟨fun _ => post_nonneg prior dc L hp _,
    mh_finite_stationary _ _ _ (fun _ _ => (propPdf_pos dc w hw _ _).le) hrow
      (fun _ _ => (acc_mem_Icc prior dc w L hp hw _ _).1)
      (fun _ _ => (acc_mem_Icc prior dc w L hp hw _ _).2)
      fun s t => model_detailed_balance prior dc w L hp hw (st s) (st t)⟩

/-- detailed balance of the within-model shift in `ℝ≥0∞` form, for any parametrisation `st` and
    symmetric non-negative strike kernel -/
theorem model_shift_balance (dc : Bool) (hp : ∀ b t, 0 ≤ prior b t) (hw : C05.WidthsPos w)
    {X : Type*} (st : X → Tape ℝ) (k : X → X → ℝ) (hk0 : ∀ x y, 0 ≤ k x y)
    (hks : ∀ x y, k x y = k y x) (x y : X) :
    ENNReal.ofReal (post prior dc L (st x)) * ENNReal.ofReal (propPdf dc w (st x) (st y) * k x y)
        * ENNReal.ofReal (acc prior dc w L (st x) (st y))
      = ENNReal.ofReal (post prior dc L (st y)) * ENNReal.ofReal (propPdf dc w (st y) (st x) * k y x)
        * ENNReal.ofReal (acc prior dc w L (st y) (st x)) := by
  have hq0 : ∀ x y, 0 ≤ propPdf dc w (st x) (st y) * k x y := fun x y =>
    mul_nonneg (propPdf_pos dc w hw _ _).le (hk0 x y)
  refine ofReal_balance (post_nonneg prior dc L hp _) (hq0 x y) (post_nonneg prior dc L hp _)
    (hq0 y x) ?_
  rw [hks y x]
  linear_combination k x y * model_detailed_balance prior dc w L hp hw (st x) (st y)

/-- **The recorded chain samples the posterior (density form)**.  `X` is any measurable
    parametrisation of the states (`st : X → Tape ℝ`) with an s-finite reference measure `lam`.
    The proposal density is the model's `transPdf` times a symmetric factor `k` (the wrapped-normal
    strike kernel, which `transition_pdf` leaves out because it cancels in the ratio; take
    `k = 1` if strike is not part of `X`).  Hypotheses on the ingredients: measurability, and that
    the proposal density is normalised w.r.t. `lam`.  Detailed balance is NOT a hypothesis: it is
    `model_detailed_balance`.  Conclusion: the Metropolis–Hastings kernel with the model's
    acceptance is a Markov kernel, the posterior `prior × likelihood` (as a measure with density
    w.r.t. `lam`) is invariant, and after any number of steps every measurable set carries its
    posterior mass. -/
theorem mh_chain_posterior_stationary_density {X : Type*} [MeasurableSpace X] (lam : Measure X)
    [SFinite lam] (hp : ∀ b t, 0 ≤ prior b t) (hw : C05.WidthsPos w) (st : X → Tape ℝ)
    (k : X → X → ℝ) (hk0 : ∀ x y, 0 ≤ k x y) (hks : ∀ x y, k x y = k y x)
    (hπm : Measurable fun x => post prior dc L (st x))
    (hqm : Measurable (Function.uncurry fun x y => propPdf dc w (st x) (st y) * k x y))
    (ham : Measurable (Function.uncurry fun x y => acc prior dc w L (st x) (st y)))
    (hqn : ∀ x, ∫⁻ y, ENNReal.ofReal (propPdf dc w (st x) (st y) * k x y) ∂lam = 1) :
    let π : X → ℝ≥0∞ := fun x => ENNReal.ofReal (post prior dc L (st x))
    let q : X → X → ℝ≥0∞ := fun x y => ENNReal.ofReal (propPdf dc w (st x) (st y) * k x y)
    let a : X → X → ℝ≥0∞ := fun x y => ENNReal.ofReal (acc prior dc w L (st x) (st y))
    IsMarkovKernel (mhKernel lam q a) ∧
    Kernel.Invariant (mhKernel lam q a) (lam.withDensity π) ∧
    (∀ B, MeasurableSet B → ∫⁻ x, π x * mhK lam q a x B ∂lam = ∫⁻ x in B, π x ∂lam) ∧
    ∀ (n : ℕ) (B : Set X), MeasurableSet B →
      ((fun μ : Measure X => μ.bind (mhKernel lam q a))^[n] (lam.withDensity π)) B
        = ∫⁻ x in B, π x ∂lam := by
  intro π q a
  have hπ : Measurable π := hπm.ennreal_ofReal
  have hq : Measurable (Function.uncurry q) := hqm.ennreal_ofReal
  have ha : Measurable (Function.uncurry a) := ham.ennreal_ofReal
  have ha1 : ∀ x y, a x y ≤ 1 := fun x y =>
    ENNReal.ofReal_le_one.mpr (acc_mem_Icc prior dc w L hp hw _ _).2
  have hdb : ∀ x y, π x * q x y * a x y = π y * q y x * a y x :=
    model_shift_balance prior w L dc hp hw st k hk0 hks
  exact ⟨mhKernel_isMarkov lam hq ha hqn ha1, mhKernel_invariant lam hπ hq ha hqn ha1 hdb,
    fun B hB => mh_stationary lam hπ hq ha hqn ha1 hdb hB,
    fun n B hB => mh_stationary_iterate_apply lam hπ hq ha hqn ha1 hdb n hB⟩

/-- **The recorded chain samples the posterior (density form, source coordinates)**.  The state
    is the coordinate vector `(γ, δ, κ, h, σ)` (`Coord = ℝ⁵`, `toTape` reads it as a `Tape`); the
    reference measure `refMeasure dc μκ` is Lebesgue on the source domain
    `[-π/6, π/6] × [-π/2, π/2] × · × [0, 1] × [-π/2, π/2]` (point masses at 0 on `γ, δ` for a
    double-couple-constrained chain) with any s-finite `μκ` on strike.  The proposal density is
    the model's `transPdf` times a strike kernel `k` that is measurable, non-negative, symmetric
    and normalised w.r.t. `μκ` (the code's wrapped normal; `transition_pdf` leaves it out because
    it cancels).  Here neither detailed balance nor the normalisation of the proposal nor the
    measurability of proposal and acceptance is assumed: they are proved
    (`model_detailed_balance`, `lintegral_proposal`, `measurable_transPdf_coord`,
    `measurable_acceptMH`).  What is assumed: the sampling prior is non-negative and measurable,
    the likelihood `toProb ∘ L` is measurable, the widths are positive. -/
theorem mh_chain_posterior_stationary_coord (hp : ∀ b t, 0 ≤ prior b t) (hw : C05.WidthsPos w)
    (μκ : Measure ℝ) [SFinite μκ] (k : ℝ → ℝ → ℝ) (hkm : Measurable (Function.uncurry k))
    (hk0 : ∀ a b, 0 ≤ k a b) (hks : ∀ a b, k a b = k b a)
    (hkn : ∀ a, ∫⁻ b, ENNReal.ofReal (k a b) ∂μκ = 1)
    (hprior : Measurable fun x : Coord => prior dc (toTape x))
    (hL : Measurable fun x : Coord => toProb (L (toTape x))) :
    let lam : Measure Coord := refMeasure dc μκ
    let π : Coord → ℝ≥0∞ := fun x => ENNReal.ofReal (post prior dc L (toTape x))
    let q : Coord → Coord → ℝ≥0∞ := fun x y =>
      ENNReal.ofReal (propPdf dc w (toTape x) (toTape y) * k x.2.2.1 y.2.2.1)
    let a : Coord → Coord → ℝ≥0∞ := fun x y =>
      ENNReal.ofReal (acc prior dc w L (toTape x) (toTape y))
    IsMarkovKernel (mhKernel lam q a) ∧
    Kernel.Invariant (mhKernel lam q a) (lam.withDensity π) ∧
    (∀ B, MeasurableSet B → ∫⁻ x, π x * mhK lam q a x B ∂lam = ∫⁻ x in B, π x ∂lam) ∧
    ∀ (n : ℕ) (B : Set Coord), MeasurableSet B →
      ((fun μ : Measure Coord => μ.bind (mhKernel lam q a))^[n] (lam.withDensity π)) B
        = ∫⁻ x in B, π x ∂lam := by
  have hT := measurable_transPdf_coord dc w
  have hkm' : Measurable fun p : Coord × Coord => k p.1.2.2.1 p.2.2.2.1 :=
    hkm.comp (f := fun p : Coord × Coord => (p.1.2.2.1, p.2.2.2.1)) (by fun_prop)
  exact mh_chain_posterior_stationary_density prior dc w L (refMeasure dc μκ) hp hw toTape
    (fun x y => k x.2.2.1 y.2.2.1) (fun _ _ => hk0 _ _) (fun _ _ => hks _ _)
    (hprior.mul hL) (hT.mul hkm') (measurable_acceptMH prior dc w L toTape hT hprior hL)
    (lintegral_proposal dc w (shiftWidths_pos hw) μκ k hkm hkn)

end Model

/-- the hypotheses of `mh_chain_posterior_stationary_coord` are satisfiable: the shipped flat
    prior, a constant likelihood, unit widths, strike uniform on `[0, 2π]` with the uniform kernel -/
example (dc : Bool) :
    let prior : Bool → Tape ℝ → ℝ := flatPrior
    let w : Widths ℝ := ⟨1, 1, 1, 1, 1, 1, 1, 1⟩
    let L : Tape ℝ → LogP ℝ := fun _ => fin 0
    let μκ : Measure ℝ := volume.restrict (Set.Icc 0 (2 * Real.pi))
    let k : ℝ → ℝ → ℝ := fun _ _ => 1 / (2 * Real.pi)
    (∀ b t, 0 ≤ prior b t) ∧ C05.WidthsPos w ∧ Measurable (Function.uncurry k) ∧
    (∀ a b, 0 ≤ k a b) ∧ (∀ a b, k a b = k b a) ∧ (∀ a, ∫⁻ b, ENNReal.ofReal (k a b) ∂μκ = 1) ∧
    (Measurable fun x : Coord => prior dc (toTape x)) ∧
    (Measurable fun x : Coord => toProb (L (toTape x))) := by
  intro prior w L μκ k
  have hπ := Real.pi_pos
  exact ⟨flatPrior_nonneg, ⟨one_pos, one_pos, one_pos, one_pos, one_pos, one_pos, one_pos, one_pos⟩,
    measurable_const, fun _ _ => by positivity, fun _ _ => rfl, fun _ => lintegral_uniform_strike,
    by cases dc <;> exact measurable_const, measurable_const⟩
end MTfitVerif.C07
