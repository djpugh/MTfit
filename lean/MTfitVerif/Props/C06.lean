import MTfitVerif.Real.ProposalLemmas
/-
  C06 — Markov-chain proposals stay in the source domain; width adaptation keeps every width
  positive and below its maximum.  Here the structural half of "the proposal *distribution* is the
  truncated Gaussian the acceptance rule assumes": the output is the first in-range draw.  The law of
  that draw is in `Props/C06Law.lean` and `Props/C06Joint.lean`.
-/
namespace MTfitVerif.C06
open Acceptance Proposal Real

/-- structural law of the redraw loops: the result is `m + s·z` for the first `z` of the stream
    for which it is in range; the earlier draws are all out of range -/
theorem firstOk_spec (ok : ℝ → Bool) (m s : ℝ) (zs : List ℝ) (v : ℝ) (rest : List ℝ)
    (h : firstOk ok m s zs = some (v, rest)) :
    ∃ pre z, zs = pre ++ z :: rest ∧ v = m + s * z ∧ ok v = true ∧ ∀ y ∈ pre, ok (m + s * y) = false :=
  firstOk_some h

def InDomain (x : Tape ℝ) : Prop :=
  |x.gamma| ≤ π / 6 ∧ |x.delta| ≤ π / 2 ∧ 0 ≤ x.kappa ∧ x.kappa < 2 * π ∧ 0 ≤ x.h ∧ x.h ≤ 1 ∧ |x.sigma| ≤ π / 2

/-- every shift proposal lies in the source domain — for every current state, every width and
    every stream of normal draws -/
theorem shift_in_domain (dc : Bool) (w : Widths ℝ) (ξ : Tape ℝ) (zs : List ℝ) (x : Tape ℝ) (rest : List ℝ)
    (h : shiftSample dc w ξ zs = some (x, rest)) : InDomain x := by
  obtain ⟨g, z1, d, z, z3, hh, z4, s, h1, h2, h4, h5, rfl⟩ := shiftSample_eq_some_iff.mp h
  have hu := (inUnit_iff _).mp (firstOk_ok h4)
  exact ⟨typeDraw_range pi_div_six_nonneg h1, typeDraw_range pi_div_two_pos.le h2,
    Convert.mod2pi_nonneg _, Convert.mod2pi_lt _, hu.1, hu.2, firstOk_absLe h5⟩

/-- a double-couple-constrained chain proposes exact double-couples -/
theorem shift_dc_is_dc (w : Widths ℝ) (ξ : Tape ℝ) (zs : List ℝ) (x : Tape ℝ) (rest : List ℝ)
    (h : shiftSample true w ξ zs = some (x, rest)) : x.gamma = 0 ∧ x.delta = 0 := by
  obtain ⟨g, z1, d, z, z3, hh, z4, s, h1, h2, -, -, rfl⟩ := shiftSample_eq_some_iff.mp h
  exact ⟨typeDraw_dc h1, typeDraw_dc h2⟩

/-- the balancing draw lies on the lune -/
theorem jumpDraw_in_range (w : Widths ℝ) (zs : List ℝ) (g d : ℝ) (rest : List ℝ)
    (h : jumpDraw w zs = some (g, d, rest)) : |g| ≤ π / 6 ∧ |d| ≤ π / 2 := by
  rw [jumpDraw_eq] at h
  obtain ⟨g', z1, h1, h⟩ := bind_stage_eq_some.mp h
  obtain ⟨d', z2, h2, h⟩ := bind_stage_eq_some.mp h
  cases h
  exact ⟨firstOk_absLe h1, firstOk_absLe h2⟩

/-- a model jump leaves strike, dip cosine and slip unchanged; a jump down gives an exact
    double-couple, a jump up a source type on the lune -/
theorem jump_keeps_orientation (dc : Bool) (p : ℝ) (w : Widths ℝ) (ξ : Tape ℝ) (u : ℝ) (zs : List ℝ)
    (x : Tape ℝ) (rest : List ℝ) (h : transDSample dc p w ξ u zs = some (x, true, rest)) :
    x.kappa = ξ.kappa ∧ x.h = ξ.h ∧ x.sigma = ξ.sigma ∧
    (dc = false → x.gamma = 0 ∧ x.delta = 0) ∧ (dc = true → |x.gamma| ≤ π / 6 ∧ |x.delta| ≤ π / 2) := by
  rcases transDSample_some h with ⟨-, -, rfl, rfl⟩ | ⟨-, -, rfl, g, d, hj, rfl⟩ | ⟨-, hf, -⟩
  · exact ⟨rfl, rfl, rfl, fun _ => ⟨rfl, rfl⟩, fun h => (by cases h)⟩
  · exact ⟨rfl, rfl, rfl, fun h => (by cases h), fun _ => jumpDraw_in_range w zs g d _ hj⟩
  · cases hf

/-- proposals of a trans-dimensional chain stay in the domain whenever the current state does -/
theorem transD_in_domain (dc : Bool) (p : ℝ) (w : Widths ℝ) (ξ : Tape ℝ) (hξ : InDomain ξ) (u : ℝ)
    (zs : List ℝ) (x : Tape ℝ) (j : Bool) (rest : List ℝ)
    (h : transDSample dc p w ξ u zs = some (x, j, rest)) : InDomain x := by
  obtain ⟨hg, hd, hrest⟩ := hξ
  rcases transDSample_some h with ⟨-, -, -, rfl⟩ | ⟨-, -, -, g, d, hj, rfl⟩ | ⟨-, -, hsh⟩
  · exact ⟨abs_zero.trans_le pi_div_six_nonneg, abs_zero.trans_le pi_div_two_pos.le, hrest⟩
  · exact ⟨(jumpDraw_in_range w zs g d _ hj).1, (jumpDraw_in_range w zs g d _ hj).2, hrest⟩
  · exact shift_in_domain dc w ξ zs x rest hsh

/-- a jump happens exactly when the uniform draw does not exceed the jump probability -/
theorem transD_jump_iff (dc : Bool) (p : ℝ) (w : Widths ℝ) (ξ : Tape ℝ) (u : ℝ) (zs : List ℝ)
    (x : Tape ℝ) (j : Bool) (rest : List ℝ) (h : transDSample dc p w ξ u zs = some (x, j, rest)) :
    j = true ↔ u ≤ p := by
  rcases transDSample_some h with ⟨hu, rfl, -⟩ | ⟨hu, rfl, -⟩ | ⟨hu, rfl, -⟩ <;> simp [hu]

/-- all widths positive, none above its configured maximum (keys without a maximum, and the
    balancing widths, only need to be positive) -/
def WidthsOk (maxW ws : List (String × ℝ)) : Prop :=
  ∀ kv ∈ ws, 0 < kv.2 ∧ ∀ m, maxW.lookup kv.1 = some m → isFixedKey kv.1 = false → kv.2 ≤ m

-- (`0 < ratio` is not needed by the proof)
set_option linter.unusedVariables false in
theorem modifyWidths_ok (maxW ws : List (String × ℝ)) (h : WidthsOk maxW ws) {ratio : ℝ} (hr : 0 < ratio) :
    WidthsOk maxW (modifyWidths maxW ws ratio) := by
  rw [modifyWidths_eq]
  refine List.forall_mem_map.2 fun kv0 hmem => ?_
  obtain ⟨hpos, hle⟩ := h kv0 hmem
  refine ⟨modOne_pos_any maxW ratio kv0 hpos, fun m hm hfix => ?_⟩
  rw [modOne_fst] at hm hfix
  exact modOne_le maxW ratio kv0 m hm (hle m hm hfix)

/-- the point of the `or not newAlpha > 0` test in `_modify_alpha`: with positive input widths,
    **no ratio whatever** — zero, negative, or one whose product with the width is 0 (the real-number
    image of floating-point underflow) — makes `modifyWidths` return a non-positive width: in that
    case the old width is kept -/
theorem modifyWidths_pos_any_ratio (maxW ws : List (String × ℝ)) (ratio : ℝ)
    (h : ∀ p ∈ ws, 0 < p.2) : ∀ p ∈ modifyWidths maxW ws ratio, 0 < p.2 := by
  rw [modifyWidths_eq]
  exact List.forall_mem_map.2 fun kv0 hmem => modOne_pos_any maxW ratio kv0 (h kv0 hmem)

/-- not vacuous: with ratio 0 (every product is 0) both widths are kept as they were, whether or
    not the key has a configured maximum -/
example : modifyWidths [("kappa", (1 : ℝ))] [("kappa", (1 / 2 : ℝ)), ("poisson", 3)] 0
    = [("kappa", 1 / 2), ("poisson", 3)] := by
  rw [modifyWidths_eq, List.map_cons, List.map_cons, List.map_nil,
    modOne_of_not_pos _ (by simp), modOne_of_not_pos _ (by simp)]

/-- no key is lost, and the balancing widths are carried unchanged -/
theorem modifyWidths_keys (maxW ws : List (String × ℝ)) (ratio : ℝ) :
    (modifyWidths maxW ws ratio).map (·.1) = ws.map (·.1) ∧
    ∀ kv ∈ ws, isFixedKey kv.1 = true → kv ∈ modifyWidths maxW ws ratio := by
  rw [modifyWidths_eq]
  constructor
  · rw [List.map_map]
    apply List.map_congr_left
    intro kv _
    exact modOne_fst maxW ratio kv
  · intro kv hkv hfix
    exact List.mem_map.mpr ⟨kv, hkv, modOne_fixed maxW ratio kv hfix⟩

def StateOk (maxW : List (String × ℝ)) (s : AdaptState ℝ) : Prop :=
  WidthsOk maxW s.widths ∧ (∀ ow, s.oldWidths = some ow → WidthsOk maxW ow ∧ ow.map (·.1) = s.widths.map (·.1)) ∧
  (∀ r, s.oldRatio = some r → 0 < r)

-- (the bounds `maxR ≤ 1` and `rate ∈ [0,1]` are not needed by the proof)
set_option linter.unusedVariables false in
/-- one adaptation step keeps every width positive and below its maximum and loses no key — for
    every window rate in [0,1] -/
theorem adaptStep_ok (minR maxR : ℝ) (hmin : 0 < minR) (hmax : minR ≤ maxR) (hmax1 : maxR ≤ 1)
    (maxW : List (String × ℝ)) (s : AdaptState ℝ) (hs : StateOk maxW s) (rate : ℝ) (h0 : 0 ≤ rate) (h1 : rate ≤ 1) :
    StateOk maxW (adaptStep minR maxR maxW s rate) ∧
    (adaptStep minR maxR maxW s rate).widths.map (·.1) = s.widths.map (·.1) := by
  have hmaxR : 0 < maxR := lt_of_lt_of_le hmin hmax
  obtain ⟨rate', ratio, s1, hratio, hs1, e⟩ := adaptStep_stages minR maxR maxW s rate
  rw [e]
  have hs1 : StateOk maxW s1 ∧ s1.widths = s.widths := by
    rcases hs1 with rfl | rfl
    · exact ⟨hs, rfl⟩
    · exact ⟨⟨hs.1, fun ow how => Option.some.inj how ▸ ⟨hs.1, rfl⟩,
        fun r hr => Option.some.inj hr ▸ hratio⟩, rfl⟩
  obtain ⟨⟨hw1, how1, hor1⟩, hwid1⟩ := hs1
  obtain ⟨hOW, hOR, ws0, r, hr, hW, hws0⟩ := adaptFinal_ok hmaxR maxW s1 rate' hratio hor1
  have hws0ok : WidthsOk maxW ws0 ∧ ws0.map (·.1) = s1.widths.map (·.1) := by
    rcases hws0 with rfl | h
    · exact ⟨hw1, rfl⟩
    · exact how1 ws0 h
  have hkeys : (adaptFinal maxR maxW s1 rate' ratio).widths.map (·.1) = s1.widths.map (·.1) := by
    rw [hW, (modifyWidths_keys maxW ws0 r).1, hws0ok.2]
  refine ⟨⟨?_, ?_, hOR⟩, ?_⟩
  · rw [hW]; exact modifyWidths_ok maxW ws0 hws0ok.1 hr
  · intro ow how
    rw [hOW] at how
    obtain ⟨h1, h2⟩ := how1 ow how
    exact ⟨h1, by rw [h2, hkeys]⟩
  · rw [hkeys, hwid1]

/-- **every sequence** of learning-window rates in [0,1] keeps every width (including those of the
    dimension-balancing draw) positive and below its maximum -/
theorem adapt_invariant (minR maxR : ℝ) (hmin : 0 < minR) (hmax : minR ≤ maxR) (hmax1 : maxR ≤ 1)
    (maxW : List (String × ℝ)) (s : AdaptState ℝ) (hs : StateOk maxW s) (rates : List ℝ)
    (hr : ∀ r ∈ rates, 0 ≤ r ∧ r ≤ 1) :
    let s' := rates.foldl (adaptStep minR maxR maxW) s
    WidthsOk maxW s'.widths ∧ s'.widths.map (·.1) = s.widths.map (·.1) := by
  have h := List.foldlRecOn (motive := fun s' => StateOk maxW s' ∧ s'.widths.map (·.1) = s.widths.map (·.1))
    rates (adaptStep minR maxR maxW) ⟨hs, rfl⟩ fun s' h r hmem => by
      obtain ⟨hok, hk⟩ := adaptStep_ok minR maxR hmin hmax hmax1 maxW s' h.1 r (hr r hmem).1 (hr r hmem).2
      exact ⟨hok, hk.trans h.2⟩
  exact ⟨h.1.1, h.2⟩

end MTfitVerif.C06
