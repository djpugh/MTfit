import MTfitVerif.Real.AcceptanceLemmas
/-
  C05 — the Markov-chain acceptance satisfies detailed balance for shifts and model jumps.
-/
namespace MTfitVerif.C05
open LogP Acceptance

/-- the swap identity behind detailed balance, for positive flows -/
theorem min_ratio_swap {u v : ℝ} (hu : 0 < u) (hv : 0 < v) : u * min 1 (v / u) = v * min 1 (u / v) :=
  min_ratio_swap_of_nonneg hu.le hv.le

def WidthsPos (w : Widths ℝ) : Prop :=
  0 < w.gamma ∧ 0 < w.delta ∧ 0 < w.kappa ∧ 0 < w.h ∧ 0 < w.sigma ∧ 0 < w.gammaDc ∧ 0 < w.deltaDc ∧ 0 < w.propNorm

theorem _root_.MTfitVerif.Acceptance.shiftWidths_pos {w : Widths ℝ} (hw : WidthsPos w) :
    0 < w.gamma ∧ 0 < w.delta ∧ 0 < w.h ∧ 0 < w.sigma :=
  ⟨hw.1, hw.2.1, hw.2.2.2.1, hw.2.2.2.2.1⟩

theorem truncTerm_pos (x m : ℝ) {s lo hi : ℝ} (hs : 0 < s) (hlh : lo < hi) : 0 < truncTerm x m s lo hi :=
  truncTerm_pos' x m hs hlh

/-- every truncation normaliser is positive, so the proposal density is well defined and
    strictly positive for every pair of states and every positive width -/
theorem transPdf_pos (dc : Bool) (w : Widths ℝ) (hw : WidthsPos w) (x x1 : Tape ℝ) : 0 < transPdf dc w x x1 := by
  obtain ⟨hg, hd, _, hh, hs, _, _, _⟩ := hw
  have h := mul_pos (truncTerm_pos x.h x1.h hh one_pos)
    (truncTerm_pos x.sigma x1.sigma hs neg_pi_div_two_lt)
  cases dc
  · rw [transPdf_false, mul_assoc]
    exact mul_pos (mul_pos (truncTerm_pos _ _ hg neg_pi_div_six_lt)
      (truncTerm_pos _ _ hd neg_pi_div_two_lt)) h
  · rwa [transPdf_true]

/-- acceptance probabilities are probabilities -/
theorem acceptMH_mem_Icc (prior : Bool → Tape ℝ → ℝ) (hp : ∀ b t, 0 ≤ prior b t) (dc : Bool) (w : Widths ℝ)
    (hw : WidthsPos w) (xi x : Tape ℝ) (Lxi Lx : LogP ℝ) :
    0 ≤ acceptMH prior dc w xi x Lxi Lx ∧ acceptMH prior dc w xi x Lxi Lx ≤ 1 := by
  rw [acceptMH_eq_accept, mhRatio_eq]
  refine accept_mem_Icc (fun a ha => ?_) Lxi Lx
  split at ha
  · rw [← Option.mem_some_iff.mp ha]
    exact div_nonneg (mul_nonneg (transPdf_pos dc w hw xi x).le (hp dc x))
      (mul_nonneg (transPdf_pos dc w hw x xi).le (hp dc xi))
  · cases ha

/-- **Detailed balance of a shift**: for every pair of states (interior or on the boundary of the
    domain, where the prior may vanish), every positive width, any non-negative sampling prior and
    all finite log-likelihoods,
    `π(ξ) e^{L} q(x|ξ) a(ξ→x) = π(x) e^{L'} q(ξ|x) a(x→ξ)`. -/
theorem mh_detailed_balance (prior : Bool → Tape ℝ → ℝ) (hp : ∀ b t, 0 ≤ prior b t) (dc : Bool)
    (w : Widths ℝ) (hw : WidthsPos w) (xi x : Tape ℝ) (L L' : ℝ) :
    prior dc xi * Real.exp L * transPdf dc w x xi * acceptMH prior dc w xi x (fin L) (fin L')
      = prior dc x * Real.exp L' * transPdf dc w xi x * acceptMH prior dc w x xi (fin L') (fin L) :=
  acceptMH_balance prior dc w (hp dc xi) (hp dc x) (transPdf_pos dc w hw x xi)
    (transPdf_pos dc w hw xi x) (fin L) (fin L')

/-- swap the roles of current and proposed state in a list of events -/
def swapEvents (evs : List (Bool × Widths ℝ × Tape ℝ × Tape ℝ)) : List (Bool × Widths ℝ × Tape ℝ × Tape ℝ) :=
  evs.map fun e => (e.1, e.2.1, e.2.2.2, e.2.2.1)

/-- joint target-times-proposal weight of moving every event from its current to its proposed state -/
noncomputable def flow (prior : Bool → Tape ℝ → ℝ) (evs : List (Bool × Widths ℝ × Tape ℝ × Tape ℝ)) : ℝ :=
  (evs.map fun e => prior e.1 e.2.2.1 * transPdf e.1 e.2.1 e.2.2.2 e.2.2.1).prod

theorem swapEvents_swapEvents (evs : List (Bool × Widths ℝ × Tape ℝ × Tape ℝ)) :
    swapEvents (swapEvents evs) = evs := by
  simp only [swapEvents, List.map_map, Function.comp_def, List.map_id']

theorem flow_swapEvents (prior : Bool → Tape ℝ → ℝ) (evs : List (Bool × Widths ℝ × Tape ℝ × Tape ℝ)) :
    flow prior (swapEvents evs)
      = (evs.map fun e => prior e.1 e.2.2.2 * transPdf e.1 e.2.1 e.2.2.1 e.2.2.2).prod := by
  simp only [flow, swapEvents, List.map_map, Function.comp_def]

theorem flow_pos (prior : Bool → Tape ℝ → ℝ) (evs : List (Bool × Widths ℝ × Tape ℝ × Tape ℝ))
    (hp : ∀ e ∈ evs, 0 < prior e.1 e.2.2.1) (hw : ∀ e ∈ evs, WidthsPos e.2.1) : 0 < flow prior evs := by
  unfold flow
  refine List.prod_pos fun a ha => ?_
  obtain ⟨e, he, rfl⟩ := List.mem_map.mp ha
  exact mul_pos (hp e he) (transPdf_pos _ _ (hw e he) _ _)

theorem mhRatioMulti_flow (prior : Bool → Tape ℝ → ℝ) (evs : List (Bool × Widths ℝ × Tape ℝ × Tape ℝ))
    (hp : ∀ e ∈ evs, 0 < prior e.1 e.2.2.1) (hw : ∀ e ∈ evs, WidthsPos e.2.1) :
    mhRatioMulti prior evs = some (flow prior (swapEvents evs) / flow prior evs) := by
  rw [flow_swapEvents, flow]
  induction evs with
  | nil => simp only [mhRatioMulti, List.map_nil, List.prod_nil, div_one, flt_c, Nat.cast_one]
  | cons e rest ih =>
    obtain ⟨dc, w, xi, x⟩ := e
    rw [List.forall_mem_cons] at hp hw
    simp only [mhRatioMulti, mhRatio_of_pos prior dc w xi x (transPdf_pos dc w hw.1 x xi) hp.1,
      ih hp.2 hw.2, List.map_cons, List.prod_cons, Option.some.injEq]
    -- `mhRatio` has `transPdf * prior`, `flow` has `prior * transPdf`
    rw [div_mul_div_comm, mul_comm (prior dc x), mul_comm (prior dc xi)]

/-- **Detailed balance of a joint multi-event shift** (any number of events; strictly positive
    priors, i.e. interior states) -/
theorem mh_multi_event_balance (prior : Bool → Tape ℝ → ℝ) (evs : List (Bool × Widths ℝ × Tape ℝ × Tape ℝ))
    (hp : ∀ e ∈ evs, 0 < prior e.1 e.2.2.1 ∧ 0 < prior e.1 e.2.2.2) (hw : ∀ e ∈ evs, WidthsPos e.2.1)
    (L L' : ℝ) :
    flow prior evs * Real.exp L * acceptMulti prior evs (fin L) (fin L')
      = flow prior (swapEvents evs) * Real.exp L' * acceptMulti prior (swapEvents evs) (fin L') (fin L) := by
  have hp1 : ∀ e ∈ evs, 0 < prior e.1 e.2.2.1 := fun e he => (hp e he).1
  have hp2 : ∀ e ∈ swapEvents evs, 0 < prior e.1 e.2.2.1 :=
    List.forall_mem_map.2 fun e he => (hp e he).2
  have hw2 : ∀ e ∈ swapEvents evs, WidthsPos e.2.1 := List.forall_mem_map.2 hw
  have h2 := mhRatioMulti_flow prior (swapEvents evs) hp2 hw2
  rw [swapEvents_swapEvents] at h2
  rw [acceptMulti_eq_accept, acceptMulti_eq_accept, mhRatioMulti_flow prior evs hp1 hw, h2]
  exact accept_balance (flow_pos prior evs hp1 hw).le (flow_pos prior (swapEvents evs) hp2 hw2).le
    (fin L) (fin L')

theorem jumpQ_pos (w : Widths ℝ) (hw : WidthsPos w) (x : Tape ℝ) : 0 < jumpQ w x := by
  obtain ⟨_, _, _, _, _, hg, hd, hn⟩ := hw
  unfold jumpQ
  exact div_pos (mul_pos (gaussPdf_pos _ _ hg) (gaussPdf_pos _ _ hd)) hn

/-- **Detailed balance of a dimension jump**: with model prior `p` for the double-couple model and
    `1 - p` for the full tensor, and `q` the density of the balancing draw (the jump keeps strike,
    dip and slip, so the Jacobian is 1),
    `π_dc(ξ) p e^{L} q(γ,δ) a↑ = π_mt(x) (1-p) e^{L'} a↓`. -/
theorem jump_detailed_balance (prior : Bool → Tape ℝ → ℝ) (w : Widths ℝ) (hw : WidthsPos w)
    (xiDc x : Tape ℝ) (hdc : 0 < prior true xiDc) (hmt : 0 < prior false x) {p : ℝ} (hp0 : 0 < p) (hp1 : p < 1)
    (L L' : ℝ) :
    prior true xiDc * p * Real.exp L * jumpQ w x * acceptJumpUp prior w xiDc x p (fin L) (fin L')
      = prior false x * (1 - p) * Real.exp L' * acceptJumpDown prior w x xiDc p (fin L') (fin L) :=
  acceptJump_balance prior w hdc.le hmt.le (jumpQ_pos w hw x).le hp0.le hp1.le (fin L) (fin L')

/-- a proposal of zero likelihood has acceptance probability zero — shift, joint shift and jumps -/
theorem zero_likelihood_rejected (prior : Bool → Tape ℝ → ℝ) (dc : Bool) (w : Widths ℝ) (xi x : Tape ℝ)
    (evs : List (Bool × Widths ℝ × Tape ℝ × Tape ℝ)) (p : ℝ) (Lxi : LogP ℝ) :
    acceptMH prior dc w xi x Lxi negInf = 0 ∧ acceptMulti prior evs Lxi negInf = 0 ∧
    acceptJumpUp prior w xi x p Lxi negInf = 0 ∧ acceptJumpDown prior w xi x p Lxi negInf = 0 := by
  rw [acceptMH_eq_accept, acceptMulti_eq_accept, acceptJumpUp_eq_accept, acceptJumpDown_eq_accept]
  simp only [accept_negInf_right, and_self]

/-- a chain sitting on a zero-likelihood start accepts any proposal of non-zero likelihood -/
theorem zero_start_moves (prior : Bool → Tape ℝ → ℝ) (dc : Bool) (w : Widths ℝ) (xi x : Tape ℝ)
    (evs : List (Bool × Widths ℝ × Tape ℝ × Tape ℝ)) (p : ℝ) (L' : ℝ) :
    acceptMH prior dc w xi x negInf (fin L') = 1 ∧ acceptMulti prior evs negInf (fin L') = 1 ∧
    acceptJumpUp prior w xi x p negInf (fin L') = 1 ∧ acceptJumpDown prior w xi x p negInf (fin L') = 1 := by
  rw [acceptMH_eq_accept, acceptMulti_eq_accept, acceptJumpUp_eq_accept, acceptJumpDown_eq_accept]
  simp only [accept_negInf_left, and_self]

/-- the accept decision: probability-zero proposals are never accepted, for every uniform draw in
    `[0,1)` -/
theorem decide_zero_never {u : ℝ} (hu : 0 ≤ u) : Acceptance.decide u 0 = false := by
  simp [Acceptance.decide, not_lt.mpr hu]

/-- … and probability-one proposals always are -/
theorem decide_one_always {u : ℝ} (hu : u < 1) : Acceptance.decide u 1 = true := by
  simp [Acceptance.decide, hu]

/-- … and in general a draw accepts exactly when it falls below the acceptance probability, so
    the probability of accepting is `a` -/
theorem decide_iff (u a : ℝ) : Acceptance.decide u a = true ↔ u < a := by
  simp [Acceptance.decide]

end MTfitVerif.C05
