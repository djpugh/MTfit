import MTfitVerif.Real.PyxConvertLemmas
/-
  C20 — the scalar kernels `cN_SDR` and `csingleSDR_SDR` of cmoment_tensor_conversion.pyx, as translated in
  `Model/PyxKernels.lean`, equal over ℝ the models `fpToSdr`, `sdrToSdr` (`Model/Convert.lean`) of the Python `FP_SDR`,
  `SDR_SDR`: `cN_SDR` for every unit normal and unit slip, `csingleSDR_SDR` for every strike, dip, rake with `0 ≤ sin d`.
  (`cN_SDR` has the in-plane form of the rake for `sin(dip) < 1e-6` that `FP_SDR` has, MTfit commit 2cb6cbd: without it the two
  differ on horizontal planes.)
-/
namespace MTfitVerif.C20
open MTfitVerif.Convert Real MTfitVerif.ConvertSdr MTfitVerif.PyxSdr

/-- the rake as the compiled `cN_SDR` evaluates it from the raw strike `A = atan2(-N0, N1)` and the dip `D`: the in-plane form
    when `sin D < 1e-6`, otherwise `atan2(-S2, S0 N1 - S1 N0)` -/
noncomputable def cRake (A D N0 N1 S0 S1 S2 : ℝ) : ℝ :=
  if sin D < (sci 1 6 : ℝ) then
    atan2 (S0 * sin A * cos D - S1 * cos A * cos D - S2 * sin D) (S0 * cos A + S1 * sin A)
  else atan2 (-S2) (S0 * N1 - S1 * N0)

theorem cRake_mem (A D N0 N1 S0 S1 S2 : ℝ) : -π < cRake A D N0 N1 S0 S1 S2 ∧ cRake A D N0 N1 S0 S1 S2 ≤ π := by
  unfold cRake; split <;> exact atan2_mem _ _

/-- the compiled `cN_SDR` over ℝ with its dead branches removed (`dip > π/2`, the `fmod` of the strike, the rake wraps) -/
theorem cN_SDR_closed (N0 N1 N2 S0 S1 S2 a b c' : ℝ) :
    Pyx.cconvert.cN_SDR N0 N1 N2 S0 S1 S2 a b c'
      = if 0 < N2 then
          (mod2pi (mod2pi (atan2 (-(-N0)) (-N1))),
            atan2 ((-N1) * (-N1) + (-N0) * (-N0)) (√(((-N0) * (-N2)) * ((-N0) * (-N2)) + ((-N1) * (-N2)) * ((-N1) * (-N2)))),
            cRake (atan2 (-(-N0)) (-N1))
              (atan2 ((-N1) * (-N1) + (-N0) * (-N0)) (√(((-N0) * (-N2)) * ((-N0) * (-N2)) + ((-N1) * (-N2)) * ((-N1) * (-N2)))))
              (-N0) (-N1) (-S0) (-S1) (-S2))
        else
          (mod2pi (mod2pi (atan2 (-N0) N1)),
            atan2 (N1 * N1 + N0 * N0) (√((N0 * N2) * (N0 * N2) + (N1 * N2) * (N1 * N2))),
            cRake (atan2 (-N0) N1) (atan2 (N1 * N1 + N0 * N0) (√((N0 * N2) * (N0 * N2) + (N1 * N2) * (N1 * N2))))
              N0 N1 S0 S1 S2) := by
  unfold Pyx.cconvert.cN_SDR cRake
  -- `↓reduceIte` decides a condition before `simp` enters the branches, so the dead ones (most of the generated tree)
  -- are never rewritten; `ite_ite_triple` brings what is left into the form of the right-hand side
  simp only [Pyx.cconvert.k_PI2, flt_ltb, flt_c, flt_pi, flt_atan2, flt_sqrt, flt_abs, flt_sin, flt_cos, Nat.cast_zero,
    Nat.cast_ofNat, decide_eq_true_eq, atan2_gt_pi_iff, atan2_lt_neg_pi_iff, abs_atan2_gt_two_pi_iff, dip_gt_iff,
    ↓reduceIte, mod2pi_mod2pi_atan2, ite_ite_triple]

/-- the rake of the model of `FP_SDR` is the compiled kernel's: the model reads the strike after `np.mod(·, 2π)`, the kernel
    before, and only through its sine and cosine -/
theorem rakeOf_eq_cRake (m t : V3 ℝ) :
    rakeOf m t = cRake (atan2 (-m.x) m.y)
      (atan2 (m.y * m.y + m.x * m.x) (√((m.x * m.z) * (m.x * m.z) + (m.y * m.z) * (m.y * m.z)))) m.x m.y t.x t.y t.z := by
  simp only [rakeOf, rakeRaw, sdOf, cRake, sin_mod2pi, cos_mod2pi]

/-- over ℝ the compiled `cN_SDR(normal, slip)` (with the in-plane rake branch for `sin(dip) < 1e-6`) equals the
    model `fpToSdr` of the Python `FP_SDR` for every unit normal and unit slip vector — horizontal planes included, and
    perpendicularity is not needed.  (The kernel does not normalise its arguments, `FP_SDR` does: hence the unit hypotheses.  The
    three trailing arguments of the kernel are the C output slots; it does not read them.) -/
theorem cN_SDR_eq (N0 N1 N2 S0 S1 S2 a b c' : ℝ) (hN : N0 * N0 + N1 * N1 + N2 * N2 = 1)
    (hS : S0 * S0 + S1 * S1 + S2 * S2 = 1) :
    Pyx.cconvert.cN_SDR N0 N1 N2 S0 S1 S2 a b c' = fpToSdr ⟨N0, N1, N2⟩ ⟨S0, S1, S2⟩ := by
  rw [fpToSdr_eq, V3.unit_of_unit (a := ⟨N0, N1, N2⟩) hN, V3.unit_of_unit (a := ⟨S0, S1, S2⟩) hS,
    cN_SDR_closed]
  split_ifs <;> rw [rakeOf_eq_cRake] <;> rfl

/-! ### horizontal planes -/

theorem sci_1_6_pos : (0 : ℝ) < (sci 1 6 : ℝ) := by
  rw [flt_sci]; norm_num

theorem atan2_zero_zero : atan2 0 0 = 0 := Convert.atan2_zero_zero

/-- on the horizontal plane with normal `(0, 0, -1)` the model of `FP_SDR` returns strike 0, dip 0 and, as rake, the angle of
    the slip vector from the strike direction (north) -/
theorem fpToSdr_horizontal (S0 S1 : ℝ) (hS : S0 * S0 + S1 * S1 = 1) :
    fpToSdr ⟨0, 0, -1⟩ ⟨S0, S1, 0⟩ = (0, 0, atan2 (-S1) S0) := by
  have hN : V3.dot (⟨0, 0, -1⟩ : V3 ℝ) ⟨0, 0, -1⟩ = 1 := by simp [V3.dot]
  have hS' : V3.dot (⟨S0, S1, 0⟩ : V3 ℝ) ⟨S0, S1, 0⟩ = 1 := by simp only [V3.dot]; linarith
  have hm : mod2pi (0 : ℝ) = 0 := mod2pi_of_mem le_rfl (by positivity)
  rw [fpToSdr_of_unit hN hS' (by norm_num), rakeOf, sdOf_vertical rfl rfl]
  simp only [rakeRaw, hm, Real.sin_zero, Real.cos_zero, sci_1_6_pos, if_true]
  simp

/-- on the horizontal plane with normal `(0, 0, -1)` the compiled kernel returns what the model of `FP_SDR` does
    (`fpToSdr_horizontal`): its in-plane rake branch, since both arguments of the plain form `atan2(-S2, S0 N1 - S1 N0)`
    vanish there -/
theorem cN_SDR_horizontal (S0 S1 a b c' : ℝ) (hS : S0 * S0 + S1 * S1 = 1) :
    Pyx.cconvert.cN_SDR 0 0 (-1) S0 S1 0 a b c' = (0, 0, atan2 (-S1) S0) := by
  rw [cN_SDR_eq 0 0 (-1) S0 S1 0 a b c' (by norm_num) (by linarith), fpToSdr_horizontal S0 S1 hS]

/-! ### `csingleSDR_SDR` -/

/-- over ℝ and for `0 ≤ sin d` the compiled `csingleSDR_SDR` hands the slip vector and the fault normal of the plane
    `(s, d, r)` to `cN_SDR`, the slip vector in the place of the normal.  (The code has `√(1 - cos² d)` for `sin d`, and
    normalises `T = a + b`, `P = a - b`, `T + P`, `T - P` in turn: the model's `SDR_FP`, `C13.sdrToFp_eq`.) -/
theorem csingleSDR_SDR_closed (s d r a b c' : ℝ) (hd : 0 ≤ sin d) :
    Pyx.cconvert.csingleSDR_SDR s d r a b c'
      = Pyx.cconvert.cN_SDR (sdrVec1 s d r).x (sdrVec1 s d r).y (sdrVec1 s d r).z
          (sdrVec2 s d).x (sdrVec2 s d).y (sdrVec2 s d).z a b c' := by
  have h : tpToFp (PyxTape.tK s (cos d) r).unit (PyxTape.pK s (cos d) r).unit = (sdrVec1 s d r, sdrVec2 s d) := by
    rw [PyxTape.tK_eq s r hd, PyxTape.pK_eq s r hd]; exact C13.sdrToFp_eq s d r
  rw [csingleSDR_SDR_eq_cN_SDR, h]

/-- the model of `SDR_SDR` returns the plane whose normal is the slip vector of the input, for every strike, dip and rake
    (`C13.sdrToSdr_is_aux` without its range hypotheses) -/
theorem sdrToSdr_eq_aux (s d r : ℝ) : sdrToSdr s d r = fpToSdr (sdrVec1 s d r) (sdrVec2 s d) :=
  sdrToSdr_eq_fpToSdr s d r

/-- over ℝ the compiled `csingleSDR_SDR` equals the model `sdrToSdr` of the Python `SDR_SDR` whenever
    `0 ≤ sin d` (the code takes the non-negative root `√(1 - cos² d)` for `sin d`), vertical dip-slip faults — whose auxiliary
    plane is horizontal — included. -/
theorem csingleSDR_SDR_eq (s d r a b c' : ℝ) (hd : 0 ≤ sin d) :
    Pyx.cconvert.csingleSDR_SDR s d r a b c' = sdrToSdr s d r := by
  obtain ⟨h1, h2, -⟩ := C13.sdrVecs_unit_perp s d r
  rw [csingleSDR_SDR_closed s d r a b c' hd, sdrToSdr_eq_aux]
  exact cN_SDR_eq _ _ _ _ _ _ a b c' h1 h2

/-- the dip enters the compiled kernel through `cos d` only -/
theorem csingleSDR_SDR_neg_dip (s d r a b c' : ℝ) :
    Pyx.cconvert.csingleSDR_SDR s (-d) r a b c' = Pyx.cconvert.csingleSDR_SDR s d r a b c' := by
  unfold Pyx.cconvert.csingleSDR_SDR
  simp only [flt_cos, Real.cos_neg]

/-- FINDING (outside the physical range of the dip): by `csingleSDR_SDR_neg_dip`, for `sin d ≤ 0` the kernel returns the auxiliary
    plane of `(s, -d, r)`, not of `(s, d, r)` -/
theorem csingleSDR_SDR_eq_of_sin_nonpos (s d r a b c' : ℝ) (hd : sin d ≤ 0) :
    Pyx.cconvert.csingleSDR_SDR s d r a b c' = sdrToSdr s (-d) r := by
  rw [← csingleSDR_SDR_neg_dip]
  exact csingleSDR_SDR_eq s (-d) r a b c' (by rw [Real.sin_neg]; linarith)

/-- the vertical dip-slip fault `(s, d, r) = (0, π/2, π/2)`, whose auxiliary plane is horizontal: the compiled
    `csingleSDR_SDR` and the model of the Python `SDR_SDR` both give `(0, 0, -π/2)` (the in-plane rake branch of `cN_SDR`; the
    plain form of the rake gives 0 there) -/
theorem csingleSDR_SDR_vertical_dip_slip (a b c' : ℝ) :
    Pyx.cconvert.csingleSDR_SDR 0 (π / 2) (π / 2) a b c' = (0, 0, -(π / 2)) ∧
      sdrToSdr 0 (π / 2) (π / 2) = (0, 0, -(π / 2)) := by
  have hv1 : sdrVec1 0 (π / 2) (π / 2) = ⟨0, 0, -1⟩ := by
    apply V3.ext' <;> simp [sdrVec1]
  have hv2 : sdrVec2 0 (π / 2) = ⟨0, 1, 0⟩ := by
    apply V3.ext' <;> simp [sdrVec2]
  have ha : atan2 (-1) 0 = -(π / 2) := by
    unfold atan2
    have h : (⟨0, -1⟩ : ℂ) = -Complex.I := by apply Complex.ext <;> simp
    rw [h, Complex.arg_neg_I]
  have hm : sdrToSdr 0 (π / 2) (π / 2) = (0, 0, -(π / 2)) := by
    rw [sdrToSdr_eq_aux, hv1, hv2, fpToSdr_horizontal 0 1 (by norm_num), ha]
  exact ⟨by rw [csingleSDR_SDR_eq _ _ _ _ _ _ (by rw [Real.sin_pi_div_two]; norm_num), hm], hm⟩

end MTfitVerif.C20
