import MTfitVerif.Real.PyxLemmas
import MTfitVerif.Real.ConvertLemmasLune
/-
  C20 — the scalar kernels of the compiled extensions (translated from the .pyx sources on every
  run, `Model/PyxKernels.lean`) compute the same real functions as the models of the pure-Python
  paths (which are tied to the Python code by the correspondence runs of C02, C03, C05, C12–C15).
-/
namespace MTfitVerif.C20
open MTfitVerif.Convert MTfitVerif.PyxLemmas

/-! ### probability kernels (cprobability.pyx) -/

-- (`0 < s` is not needed by the proof)
set_option linter.unusedVariables false in
theorem gaussian_pdf_eq (x μ s : ℝ) (hs : 0 < s) :
    Pyx.cprobability.gaussian_pdf x μ s = Acceptance.gaussPdf x μ s := by
  rw [Acceptance.gaussPdf_eq]
  simp only [Pyx.cprobability.gaussian_pdf, flt_c, flt_sqrt, flt_pi, flt_exp, Nat.cast_one, Nat.cast_ofNat,
    ← sqrt_two_pi]
  rw [show -(x - μ) * (x - μ) / (2 * s * s) = -((x - μ) / s * ((x - μ) / s)) / 2 by ring]
  ring

-- (`0 < s` is not needed by the proof)
set_option linter.unusedVariables false in
theorem gaussian_cdf_eq (x μ s : ℝ) (hs : 0 < s) :
    Pyx.cprobability.gaussian_cdf x μ s = Acceptance.gaussCdf x μ s :=
  -- the two extensions carry the same text
  gaussian_cdf_eq_gaussCdf x μ s

-- (`0 < s` is not needed by the proof)
set_option linter.unusedVariables false in
/-- manual-polarity likelihood of one station -/
theorem pol_pdf_eq (x s w : ℝ) (hs : 0 < s) :
    Pyx.cprobability.pol_pdf x s w = Polarity.polProbRaw x s w := by
  rw [Polarity.polProbRaw_eq]
  simp only [Pyx.cprobability.pol_pdf, sci_5_1, flt_c, flt_sqrt, flt_erf, Nat.cast_one, Nat.cast_ofNat]
  ring

/-- polarity-probability likelihood of one station, for every amplitude (at exactly zero both give `(p + n)/2`: the
    kernel's `x == 0` branch, MTfit commit 5e5253a) -/
theorem pol_prob_pdf_eq (x p n w : ℝ) :
    Pyx.cprobability.pol_prob_pdf x p n w = Polarity.polProbP x p n w := by
  rw [Polarity.polProbP_eq]
  simp only [Pyx.cprobability.pol_prob_pdf, sci_5_1, flt_c, flt_ltb, flt_eqb, Nat.cast_one, Nat.cast_zero,
    decide_eq_true_eq]
  rcases lt_trichotomy x 0 with hx | rfl | hx
  · rw [if_neg hx.not_gt, if_neg hx.ne, Polarity.heav_of_neg hx, Polarity.heav_of_pos (neg_pos.2 hx)]; ring
  · rw [if_neg (lt_irrefl _), if_pos rfl, neg_zero, Polarity.heav_zero]; ring
  · rw [if_pos hx, Polarity.heav_of_pos hx, Polarity.heav_of_neg (neg_neg_of_pos hx)]; ring

/-- amplitude-ratio likelihood of one station (modelled amplitudes of either sign) -/
theorem ar_pdf_eq (z μx μy px py : ℝ) (hx : μx ≠ 0) (hy : μy ≠ 0) (hpx : 0 < px) (hpy : 0 < py) :
    Pyx.cprobability.ar_pdf z μx μy px py = RatioPdf.arPdf z μx μy px py := by
  rw [RatioPdf.arPdf_eq, if_neg (not_or.2 ⟨hx, hy⟩), RatioPdf.errFix_of_pos hpx, RatioPdf.errFix_of_pos hpy,
    RatioPdf.ratioPdf_pair_abs, ar_pdf_eq_ratioPdf z μx μy px py hpy.le]

/-- inverse-variance combination step -/
theorem combine_eq (m₁ m₂ s₁ s₂ : ℝ) :
    (Pyx.cprobability.combine_mu m₁ m₂ s₁ s₂, Pyx.cprobability.combine_s s₁ s₂) =
      MultiEvent.combineStep (m₁, s₁) (m₂, s₂) := by
  simp only [Pyx.cprobability.combine_mu, Pyx.cprobability.combine_s, MultiEvent.combineStep, flt_sqrt]
  congr 1
  ring

-- (the five hypotheses are not needed by the proof)
set_option linter.unusedVariables false in
/-- per-station scale estimate -/
theorem estimate_scale_eq (x y μx μy px py a b : ℝ) (hx : μx ≠ 0) (hy : μy ≠ 0) (hpx : 0 < px) (hpy : 0 < py)
    (hxy : x / y ≠ 0) :
    Pyx.cprobability.estimate_scale_mu_s x y μx μy px py a b =
      MultiEvent.stationScale |x / y| |μx| |μy| px py :=
  estimate_scale_mu_s_eq x y μx μy px py a b

/-! ### Markov-chain kernels (cmarkov_chain_monte_carlo.pyx) -/

theorem mcmc_gaussian_pdf_eq (x μ s : ℝ) (hs : 0 < s) :
    Pyx.cmcmc.gaussian_pdf x μ s = Acceptance.gaussPdf x μ s :=
  gaussian_pdf_eq x μ s hs

-- (`0 < s` is not needed by the proof)
set_option linter.unusedVariables false in
theorem mcmc_gaussian_cdf_eq (x μ s : ℝ) (hs : 0 < s) :
    Pyx.cmcmc.gaussian_cdf x μ s = Acceptance.gaussCdf x μ s :=
  gaussian_cdf_eq_gaussCdf x μ s

/-- the proposal ratio of the compiled acceptance test is the ratio of the Python transition
    densities `q(x₀ | x) / q(x | x₀)` for a full-tensor move (the symmetric Gaussian factors cancel,
    the truncation normalisers remain) -/
theorem transition_ratio_mt_eq (x x₀ : Acceptance.Tape ℝ) (w : Acceptance.Widths ℝ)
    (hw : 0 < w.gamma ∧ 0 < w.delta ∧ 0 < w.h ∧ 0 < w.sigma)
    (hmt : ¬(x.gamma = 0 ∧ x.delta = 0 ∧ x₀.gamma = 0 ∧ x₀.delta = 0)) :
    Pyx.cmcmc.gaussian_transition_ratio x.gamma x.delta x.h x.sigma x₀.gamma w.gamma x₀.delta w.delta x₀.h w.h x₀.sigma w.sigma =
      Acceptance.transPdf false w x₀ x / Acceptance.transPdf false w x x₀ := by
  obtain ⟨hg, hd, hh, hs⟩ := hw
  have hG : Acceptance.gaussPdf x.gamma x₀.gamma w.gamma * Acceptance.gaussPdf x.delta x₀.delta w.delta *
      (Acceptance.gaussPdf x.h x₀.h w.h * Acceptance.gaussPdf x.sigma x₀.sigma w.sigma) ≠ 0 :=
    (mul_pos (mul_pos (Acceptance.gaussPdf_pos _ _ hg) (Acceptance.gaussPdf_pos _ _ hd))
      (mul_pos (Acceptance.gaussPdf_pos _ _ hh) (Acceptance.gaussPdf_pos _ _ hs))).ne'
  rw [transPdf_false_eq w x₀ x x₀.gamma x₀.delta x₀.h x₀.sigma, transPdf_false_eq w x x₀ x.gamma x.delta x.h x.sigma,
    Acceptance.gaussPdf_symm x₀.h, Acceptance.gaussPdf_symm x₀.sigma, Acceptance.gaussPdf_symm x₀.gamma,
    Acceptance.gaussPdf_symm x₀.delta, mul_div_mul_left _ _ hG]
  simp only [Pyx.cmcmc.gaussian_transition_ratio, flt_eqb, flt_c, Nat.cast_zero, Bool.and_eq_true, decide_eq_true_eq,
    and_assoc, hmt, if_false]

/-- the same for a double-couple move -/
theorem transition_ratio_dc_eq (x x₀ : Acceptance.Tape ℝ) (w : Acceptance.Widths ℝ)
    (hw : 0 < w.h ∧ 0 < w.sigma)
    (hdc : x.gamma = 0 ∧ x.delta = 0 ∧ x₀.gamma = 0 ∧ x₀.delta = 0) :
    Pyx.cmcmc.gaussian_transition_ratio x.gamma x.delta x.h x.sigma x₀.gamma w.gamma x₀.delta w.delta x₀.h w.h x₀.sigma w.sigma =
      Acceptance.transPdf true w x₀ x / Acceptance.transPdf true w x x₀ := by
  have hG : Acceptance.gaussPdf x.h x₀.h w.h * Acceptance.gaussPdf x.sigma x₀.sigma w.sigma ≠ 0 :=
    (mul_pos (Acceptance.gaussPdf_pos _ _ hw.1) (Acceptance.gaussPdf_pos _ _ hw.2)).ne'
  rw [transPdf_true_eq w x₀ x x₀.h x₀.sigma, transPdf_true_eq w x x₀ x.h x.sigma, Acceptance.gaussPdf_symm x₀.h,
    Acceptance.gaussPdf_symm x₀.sigma, mul_div_mul_left _ _ hG]
  simp only [Pyx.cmcmc.gaussian_transition_ratio, flt_eqb, flt_c, Nat.cast_zero, Bool.and_eq_true, decide_eq_true_eq,
    hdc, and_self, if_true]

-- (`cos (3 γ₀) ≠ 0` is not needed by the proof)
set_option linter.unusedVariables false in
/-- prior ratio of two full-tensor states under the uniform-on-the-sphere prior (lune latitude in
    the open interval) -/
theorem uniform_prior_ratio_mt_eq (x x₀ : Acceptance.Tape ℝ)
    (hx : ¬(x.gamma = 0 ∧ x.delta = 0)) (hx₀ : ¬(x₀.gamma = 0 ∧ x₀.delta = 0))
    (hd : -(Real.pi / 2) < x.delta ∧ x.delta < Real.pi / 2) (hd₀ : -(Real.pi / 2) < x₀.delta ∧ x₀.delta < Real.pi / 2)
    (hc₀ : Real.cos (3 * x₀.gamma) ≠ 0) :
    Pyx.cmcmc.uniform_prior_ratio x.gamma x.delta x₀.gamma x₀.delta =
      Acceptance.uniformPrior false x / Acceptance.uniformPrior false x₀ := by
  -- numerator and denominator are, on either side, one constant times `cos 3γ · betaKer u`
  rw [uniformPrior_false_eq x hd, uniformPrior_false_eq x₀ hd₀, mul_div_mul_left _ _ uniformPrior_const_ne_zero]
  simp only [Pyx.cmcmc.uniform_prior_ratio, flt_eqb, flt_c, flt_cos, Nat.cast_zero, Nat.cast_ofNat, Bool.and_eq_true,
    decide_eq_true_eq, hx, hx₀, false_and, if_false, uniform_delta_dist_eq hd, uniform_delta_dist_eq hd₀]
  rw [mul_left_comm, mul_left_comm (Real.cos _), mul_div_mul_left _ _ (div_ne_zero k_ND_ne_zero Real.pi_ne_zero)]

theorem flat_prior_ratio_eq (x x₀ : Acceptance.Tape ℝ) :
    Pyx.cmcmc.flat_prior_ratio x.gamma x.delta x₀.gamma x₀.delta =
      Acceptance.flatPrior false x / Acceptance.flatPrior false x₀ := by
  simp only [Pyx.cmcmc.flat_prior_ratio, Acceptance.flatPrior, Bool.false_eq_true, if_false, flt_c, flt_pi, Nat.cast_one,
    Nat.cast_ofNat]
  exact (div_self (by positivity)).symm

/-- density of the dimension-balancing draw -/
theorem gaussian_jump_prob_eq (x : Acceptance.Tape ℝ) (w : Acceptance.Widths ℝ) (hw : 0 < w.gammaDc ∧ 0 < w.deltaDc) :
    Pyx.cmcmc.gaussian_jump_prob x.gamma x.delta w.gammaDc w.deltaDc w.propNorm = Acceptance.jumpQ w x := by
  simp only [Pyx.cmcmc.gaussian_jump_prob, Acceptance.jumpQ, mcmc_gaussian_pdf_eq _ _ _ hw.1,
    mcmc_gaussian_pdf_eq _ _ _ hw.2]

/-! ### conversion kernels (cmoment_tensor_conversion.pyx) -/

/-- clipping the argument of `acos` to `[-1, 1]` does not change it over the reals (it only guards against rounding) -/
theorem arccos_clip (x : ℝ) : Real.arccos (max (-1) (min 1 x)) = Real.arccos x :=
  congrArg (Real.pi / 2 - ·) (Real.arcsin_projIcc x)

/-- lune coordinates of a sorted eigenvalue triple (the compiled kernel leaves its outputs
    untouched for the zero tensor) -/
theorem cE_gd_eq (e : V3 ℝ) (hs : e.z ≤ e.y ∧ e.y ≤ e.x) (h0 : ¬(e.x = 0 ∧ e.y = 0 ∧ e.z = 0)) (g d : ℝ) :
    Pyx.cconvert.cE_gd [e.x, e.y, e.z] g d = eToGd e := by
  obtain ⟨h1, h2⟩ := hs
  by_cases hxz : e.x = e.z
  · have hxy : e.x = e.y := le_antisymm (hxz ▸ h1) h2
    have hx0 : e.x ≠ 0 := fun h => h0 ⟨h, hxy ▸ h, hxz ▸ h⟩
    rw [eToGd_of_eq e ⟨hxy, hxy ▸ hxz⟩]
    simp only [Pyx.cconvert.cE_gd, List.getD_cons_zero, List.getD_cons_succ, flt_eqb, flt_ltb, flt_c, flt_pi, hxz,
      decide_true, if_true, decide_eq_true_eq, Nat.cast_zero, Nat.cast_ofNat]
    rw [← hxz]
    rcases lt_or_gt_of_ne hx0 with hn | hp
    · rw [sign_of_neg hn, if_neg hn.not_gt, if_pos hn, neg_one_mul]
    · rw [sign_of_pos hp, if_pos hp, one_mul]
  · rw [eToGd_of_ne e (fun h => hxz (h.1.trans h.2)), sort3_of_sorted e h1 h2]
    simp only [Pyx.cconvert.cE_gd, List.getD_cons_zero, List.getD_cons_succ, flt_eqb, hxz, decide_false,
      Bool.false_eq_true, if_false, Pyx.cconvert.k_sqrt3, fmax_eq, fmin_eq, flt_acos, flt_atan2, flt_sqrt, flt_pi, flt_c,
      Nat.cast_one, Nat.cast_ofNat, arccos_clip]

/-- Hudson τ, k: the kernel writes `k` to cell 5 and `τ` to cell 6 -/
theorem cE_tk_eq (e : V3 ℝ) (res : List ℝ) :
    Pyx.cconvert.cE_tk [e.x, e.y, e.z] res = ((eToTk e).2, (eToTk e).1) := by
  simp only [Pyx.cconvert.cE_tk, eToTk, List.getD_cons_zero, List.getD_cons_succ, add_right_comm e.x e.y e.z]
  split_ifs <;> rfl

/-- Hudson u, v from cells 5 (`k`) and 6 (`τ`) -/
theorem ctk_uv_eq (τ k : ℝ) (a0 a1 a2 a3 a4 : ℝ) :
    Pyx.cconvert.ctk_uv [a0, a1, a2, a3, a4, k, τ] = tkToUv τ k := by
  simp only [Pyx.cconvert.ctk_uv, tkToUv, List.getD_cons_zero, List.getD_cons_succ]

end MTfitVerif.C20
