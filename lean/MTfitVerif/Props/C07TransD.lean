import MTfitVerif.Props.C07Stationary
import MTfitVerif.Props.C05Jump
import MTfitVerif.Real.TransDModelLemmas
/-
  C07 (trans-dimensional half) — the sampler over {double-couple, full tensor} leaves the joint
  posterior invariant: a mixture of kernels that leave a target invariant does (A(i)), the
  reversible-jump kernel between a model `D` and a model `M = D × G` leaves the joint target
  `pD · πD ⊕ (1 - pD) · πM` invariant (A(ii)), hence so does its mixture with the within-model
  kernels (A(iii)); B discharges the hypotheses for the model.
-/
namespace MTfitVerif.C07
open LogP Acceptance Stationary TransD
open MeasureTheory ProbabilityTheory
open scoped ENNReal

/-! ## A(i). mixture of two Metropolis–Hastings kernels -/
section Mixture
variable {X : Type*} [MeasurableSpace X] (lam : Measure X) [SFinite lam]
  {π : X → ℝ≥0∞} {q₁ a₁ q₂ a₂ : X → X → ℝ≥0∞}

/-- **Mixture of two proposal/acceptance pairs.**  If `(π, q₁, a₁)` and `(π, q₂, a₂)` each satisfy
    detailed balance and `p ≤ 1` (`p : ℝ≥0∞`, so `0 ≤ p` is automatic), the sampler that with
    probability `p` proposes from `q₁` and accepts with `a₁` and otherwise proposes from `q₂` and
    accepts with `a₂` — kernel `mixKernel p K₁ K₂ x = p • K₁ x + (1 - p) • K₂ x` with
    `Kᵢ = mhKernel lam qᵢ aᵢ` — is a Markov kernel, leaves `lam.withDensity π` invariant
    (Kernel form and set-function form), and does so for every number of steps. -/
theorem mh_mixture_detailed_balance {p : ℝ≥0∞} (hp : p ≤ 1) (hπ : Measurable π)
    (hq₁ : Measurable (Function.uncurry q₁)) (ha₁ : Measurable (Function.uncurry a₁))
    (hq₂ : Measurable (Function.uncurry q₂)) (ha₂ : Measurable (Function.uncurry a₂))
    (hqn₁ : ∀ x, ∫⁻ y, q₁ x y ∂lam = 1) (hqn₂ : ∀ x, ∫⁻ y, q₂ x y ∂lam = 1)
    (ha1₁ : ∀ x y, a₁ x y ≤ 1) (ha1₂ : ∀ x y, a₂ x y ≤ 1)
    (hdb₁ : ∀ x y, π x * q₁ x y * a₁ x y = π y * q₁ y x * a₁ y x)
    (hdb₂ : ∀ x y, π x * q₂ x y * a₂ x y = π y * q₂ y x * a₂ y x) :
    let K := mixKernel p (mhKernel lam q₁ a₁) (mhKernel lam q₂ a₂)
    IsMarkovKernel K ∧ Kernel.Invariant K (lam.withDensity π) ∧
    (∀ B, MeasurableSet B →
      ∫⁻ x, π x * (p * mhK lam q₁ a₁ x B + (1 - p) * mhK lam q₂ a₂ x B) ∂lam
        = ∫⁻ x in B, π x ∂lam) ∧
    ∀ (n : ℕ) (B : Set X), MeasurableSet B →
      ((fun μ : Measure X => μ.bind K)^[n] (lam.withDensity π)) B = ∫⁻ x in B, π x ∂lam := by
  intro K
  have hM₁ := mhKernel_isMarkov lam hq₁ ha₁ hqn₁ ha1₁
  have hM₂ := mhKernel_isMarkov lam hq₂ ha₂ hqn₂ ha1₂
  have hinv : Kernel.Invariant K (lam.withDensity π) :=
    mixKernel_invariant hp (mhKernel_invariant lam hπ hq₁ ha₁ hqn₁ ha1₁ hdb₁)
      (mhKernel_invariant lam hπ hq₂ ha₂ hqn₂ ha1₂ hdb₂)
  refine ⟨mixKernel_isMarkov hp _ _, hinv, fun B hB => ?_, fun n B hB => ?_⟩
  · have h := (invariant_withDensity_iff hπ).mp hinv B hB
    simpa only [K, mixKernel_apply, mhKernel_apply hq₁ ha₁ _ hB, mhKernel_apply hq₂ ha₂ _ hB]
      using h
  · exact invariant_iterate_apply hinv n hB

end Mixture

/-- two two-state chains satisfying every hypothesis of `mh_mixture_detailed_balance`: states
    `Fin 2` with the counting measure, target `π = (1, 2)`; first chain: uniform proposal
    `q₁ = 1/2`; second chain: always propose the other state; both with the acceptance
    `a x y = min 1 (π y / π x)`; mixed with `p = 1/3`.  After any number of steps the state `1`
    carries its target mass `2`. -/
example :
    let lam : Measure (Fin 2) := Measure.count
    let π : Fin 2 → ℝ≥0∞ := ![1, 2]
    let q₁ : Fin 2 → Fin 2 → ℝ≥0∞ := fun _ _ => 2⁻¹
    let q₂ : Fin 2 → Fin 2 → ℝ≥0∞ := !![0, 1; 1, 0]
    let a : Fin 2 → Fin 2 → ℝ≥0∞ := !![1, 1; 2⁻¹, 1]
    let K := mixKernel 3⁻¹ (mhKernel lam q₁ a) (mhKernel lam q₂ a)
    IsMarkovKernel K ∧ Kernel.Invariant K (lam.withDensity π) ∧
    ∀ n : ℕ, ((fun μ : Measure (Fin 2) => μ.bind K)^[n] (lam.withDensity π)) {1} = 2 := by
  intro lam π q₁ q₂ a K
  have h2 : (2 : ℝ≥0∞) * 2⁻¹ = 1 := ENNReal.mul_inv_cancel (by norm_num) (by norm_num)
  have hm : ∀ {β : Type} [MeasurableSpace β] (f : Fin 2 → β), Measurable f := fun f => .of_discrete
  have hm2 : ∀ (f : Fin 2 → Fin 2 → ℝ≥0∞), Measurable (Function.uncurry f) := fun f => .of_discrete
  have hint : ∀ f : Fin 2 → ℝ≥0∞, ∫⁻ y, f y ∂lam = f 0 + f 1 := fun f => by
    simp only [lam, lintegral_count, tsum_fintype, Fin.sum_univ_two]
  have ha1 : ∀ x y, a x y ≤ 1 := by
    simp only [Fin.forall_fin_two, a, Matrix.cons_val_zero, Matrix.cons_val_one, Matrix.of_apply,
      le_refl, ENNReal.inv_le_one, Nat.one_le_ofNat, and_self]
  have h := mh_mixture_detailed_balance lam (π := π) (q₁ := q₁) (a₁ := a) (q₂ := q₂) (a₂ := a)
    (p := 3⁻¹) (ENNReal.inv_le_one.mpr (by norm_num)) (hm π) (hm2 _) (hm2 _) (hm2 _) (hm2 _)
    (fun x => by rw [hint]; exact ENNReal.inv_two_add_inv_two)
    (by simp only [hint, Fin.forall_fin_two, q₂, Matrix.cons_val_zero, Matrix.cons_val_one,
      Matrix.of_apply, zero_add, add_zero, and_self])
    ha1 ha1
    (by simp only [Fin.forall_fin_two, π, q₁, a, Matrix.cons_val_zero, Matrix.cons_val_one,
      Matrix.of_apply, one_mul, mul_one, h2, and_self])
    (by simp only [Fin.forall_fin_two, π, q₂, a, Matrix.cons_val_zero, Matrix.cons_val_one,
      Matrix.of_apply, one_mul, mul_one, mul_zero, h2, and_self])
  refine ⟨h.1, h.2.1, fun n => ?_⟩
  rw [h.2.2.2 n {1} (measurableSet_singleton _), lintegral_singleton, Measure.count_singleton,
    mul_one]
  rfl

/-! ## A(ii), A(iii). two models `D` and `M = D × G` -/
section TwoModels
variable {D G : Type*} [MeasurableSpace D] [MeasurableSpace G] (lamD : Measure D)
  (lamG : Measure G) [SFinite lamD] [SFinite lamG] {pD : ℝ≥0∞} {πD : D → ℝ≥0∞}
  {πM : D × G → ℝ≥0∞} {qJ aUp : D → G → ℝ≥0∞} {aDown : D × G → ℝ≥0∞}

/-- **The reversible-jump kernel leaves the joint target invariant.**
    State space `D ⊕ D × G` (small model `D`; large model `M = D × G`: the same coordinates plus
    the extra coordinates `g`), reference measure `lamD` on `D` and `lamD ⊗ lamG` on `M`, joint
    target `π (inl d) = pD * πD d`, `π (inr m) = (1 - pD) * πM m`.  Jump kernel: from `inl d` draw
    `g` with density `qJ d ·` (normalised w.r.t. `lamG`), propose `inr (d, g)`, accept with
    `aUp d g`; from `inr (d, g)` propose `inl d` (deterministic: drop `g`), accept with
    `aDown (d, g)`; on rejection the current state is recorded again.  The balance hypothesis is
    the form `C05.jump_detailed_balance` proves (the map `(d, g) ↦ (d, g)` has Jacobian 1).
    Conclusion: the kernel is Markov, the joint target is invariant (Kernel form and set-function
    form), for every number of steps.  No finiteness of the densities and no `pD ≤ 1` is needed. -/
theorem transD_jump_stationary (hπD : Measurable πD) (hπM : Measurable πM)
    (hq : Measurable (Function.uncurry qJ)) (ha : Measurable (Function.uncurry aUp))
    (haD : Measurable aDown) (hqn : ∀ d, ∫⁻ g, qJ d g ∂lamG = 1) (ha1 : ∀ d g, aUp d g ≤ 1)
    (haD1 : ∀ m, aDown m ≤ 1)
    (hdb : ∀ d g, pD * πD d * qJ d g * aUp d g = (1 - pD) * πM (d, g) * aDown (d, g)) :
    let lam := sumMeasure lamD (lamD.prod lamG)
    let π := sumTarget pD πD πM
    let J := jumpKernel lamG qJ aUp aDown
    IsMarkovKernel J ∧ Kernel.Invariant J (lam.withDensity π) ∧
    (∀ B, MeasurableSet B →
      ∫⁻ x, π x * jumpK lamG qJ aUp aDown x B ∂lam = ∫⁻ x in B, π x ∂lam) ∧
    ∀ (n : ℕ) (B : Set (D ⊕ D × G)), MeasurableSet B →
      ((fun μ : Measure (D ⊕ D × G) => μ.bind J)^[n] (lam.withDensity π)) B
        = ∫⁻ x in B, π x ∂lam := by
  intro lam π J
  have hM : IsMarkovKernel J := jumpKernel_isMarkov hq ha haD hqn ha1 haD1
  have hinv : Kernel.Invariant J (lam.withDensity π) :=
    (jumpKernel_isReversible hπD hπM hq ha haD hdb).invariant
  refine ⟨hM, hinv, fun B hB => ?_, fun n B hB => invariant_iterate_apply hinv n hB⟩
  simp only [← jumpKernel_apply hq ha haD _ hB]
  exact (invariant_withDensity_iff (measurable_sumTarget pD hπD hπM)).mp hinv B hB

variable {qD aD : D → D → ℝ≥0∞} {qM aM : D × G → D × G → ℝ≥0∞}

/-- **The trans-dimensional sampler leaves the joint target invariant** (abstract form).
    With probability `pj` a jump between the models is proposed (kernel of
    `transD_jump_stationary`); otherwise an ordinary Metropolis–Hastings step within the current
    model (`qD, aD` on `D`, `qM, aM` on `M = D × G`, each in detailed balance with its
    within-model target).  The resulting kernel is Markov and leaves the joint target
    `pD · πD ⊕ (1 - pD) · πM` invariant, for every number of steps. -/
theorem transD_stationary {pj : ℝ≥0∞} (hpj : pj ≤ 1) (hπD : Measurable πD) (hπM : Measurable πM)
    -- the jump
    (hq : Measurable (Function.uncurry qJ)) (ha : Measurable (Function.uncurry aUp))
    (haD : Measurable aDown) (hqn : ∀ d, ∫⁻ g, qJ d g ∂lamG = 1) (ha1 : ∀ d g, aUp d g ≤ 1)
    (haD1 : ∀ m, aDown m ≤ 1)
    (hdb : ∀ d g, pD * πD d * qJ d g * aUp d g = (1 - pD) * πM (d, g) * aDown (d, g))
    -- the step within `D`
    (hqD : Measurable (Function.uncurry qD)) (haDm : Measurable (Function.uncurry aD))
    (hqDn : ∀ x, ∫⁻ y, qD x y ∂lamD = 1) (haD1' : ∀ x y, aD x y ≤ 1)
    (hdbD : ∀ x y, πD x * qD x y * aD x y = πD y * qD y x * aD y x)
    -- the step within `M`
    (hqM : Measurable (Function.uncurry qM)) (haMm : Measurable (Function.uncurry aM))
    (hqMn : ∀ x, ∫⁻ y, qM x y ∂(lamD.prod lamG) = 1) (haM1 : ∀ x y, aM x y ≤ 1)
    (hdbM : ∀ x y, πM x * qM x y * aM x y = πM y * qM y x * aM y x) :
    let lam := sumMeasure lamD (lamD.prod lamG)
    let π := sumTarget pD πD πM
    let K := mixKernel pj (jumpKernel lamG qJ aUp aDown)
      (withinKernel (mhKernel lamD qD aD) (mhKernel (lamD.prod lamG) qM aM))
    IsMarkovKernel K ∧ Kernel.Invariant K (lam.withDensity π) ∧
    (∀ B, MeasurableSet B →
      ∫⁻ x, π x * (pj * jumpK lamG qJ aUp aDown x B
        + (1 - pj) * Sum.elim (fun d => mhK lamD qD aD d (Sum.inl ⁻¹' B))
            (fun m => mhK (lamD.prod lamG) qM aM m (Sum.inr ⁻¹' B)) x) ∂lam
        = ∫⁻ x in B, π x ∂lam) ∧
    ∀ (n : ℕ) (B : Set (D ⊕ D × G)), MeasurableSet B →
      ((fun μ : Measure (D ⊕ D × G) => μ.bind K)^[n] (lam.withDensity π)) B
        = ∫⁻ x in B, π x ∂lam := by
  intro lam π K
  have hπ : Measurable π := measurable_sumTarget pD hπD hπM
  have hJM := jumpKernel_isMarkov hq ha haD hqn ha1 haD1
  have hMD := mhKernel_isMarkov lamD hqD haDm hqDn haD1'
  have hMM := mhKernel_isMarkov (lamD.prod lamG) hqM haMm hqMn haM1
  have hW := withinKernel_isMarkov (mhKernel lamD qD aD) (mhKernel (lamD.prod lamG) qM aM)
  have hinv : Kernel.Invariant K (lam.withDensity π) :=
    mixKernel_invariant hpj (jumpKernel_isReversible hπD hπM hq ha haD hdb).invariant
      (withinKernel_invariant _ _ pD hπD hπM (mhKernel_invariant lamD hπD hqD haDm hqDn haD1' hdbD)
        (mhKernel_invariant _ hπM hqM haMm hqMn haM1 hdbM))
  refine ⟨mixKernel_isMarkov hpj _ _, hinv, fun B hB => ?_,
    fun n B hB => invariant_iterate_apply hinv n hB⟩
  rw [← (invariant_withDensity_iff hπ).mp hinv B hB]
  refine lintegral_congr fun x => ?_
  simp only [K, mixKernel_apply, jumpKernel_apply hq ha haD _ hB]
  cases x with
  | inl d => simp only [withinKernel_inl _ _ _ hB, mhKernel_apply hqD haDm _ (measurable_inl hB),
      Sum.elim_inl]
  | inr m => simp only [withinKernel_inr _ _ _ hB, mhKernel_apply hqM haMm _ (measurable_inr hB),
      Sum.elim_inr]

end TwoModels

/-! ## B. the model: double couple ⊕ full tensor -/
section Model
variable (prior : Bool → Tape ℝ → ℝ) (w : Widths ℝ) (L : Tape ℝ → LogP ℝ) (p : ℝ)

theorem acceptJumpUp_mem_Icc (hp : ∀ b t, 0 ≤ prior b t) (hw : C05.WidthsPos w) (hp0 : 0 ≤ p)
    (hp1 : p ≤ 1) (xi x : Tape ℝ) (Lxi Lx : LogP ℝ) :
    0 ≤ acceptJumpUp prior w xi x p Lxi Lx ∧ acceptJumpUp prior w xi x p Lxi Lx ≤ 1 := by
  rw [acceptJumpUp_eq_accept]
  exact accept_some_mem_Icc (mul_nonneg (div_nonneg (hp _ _)
    (mul_nonneg (C05.jumpQ_pos w hw x).le (hp _ _))) (div_nonneg (sub_nonneg.2 hp1) hp0)) Lxi Lx

theorem acceptJumpDown_mem_Icc (hp : ∀ b t, 0 ≤ prior b t) (hw : C05.WidthsPos w) (hp0 : 0 ≤ p)
    (hp1 : p ≤ 1) (xi x : Tape ℝ) (Lxi Lx : LogP ℝ) :
    0 ≤ acceptJumpDown prior w xi x p Lxi Lx ∧ acceptJumpDown prior w xi x p Lxi Lx ≤ 1 := by
  rw [acceptJumpDown_eq_accept]
  exact accept_some_mem_Icc (mul_nonneg (div_nonneg
    (mul_nonneg (C05.jumpQ_pos w hw xi).le (hp _ _)) (hp _ _)) (div_nonneg hp0 (sub_nonneg.2 hp1))) Lxi Lx

/-- `C05.jump_detailed_balance` extended to log-likelihoods that may be `-∞`, priors that may
    vanish and model probabilities `p ∈ [0, 1]` (in each degenerate case both sides are zero) -/
theorem jump_detailed_balance_logP (hp : ∀ b t, 0 ≤ prior b t) (hw : C05.WidthsPos w)
    (hp0 : 0 ≤ p) (hp1 : p ≤ 1) (xiDc x : Tape ℝ) (Lxi Lx : LogP ℝ) :
    prior true xiDc * p * toProb Lxi * jumpQ w x * acceptJumpUp prior w xiDc x p Lxi Lx
      = prior false x * (1 - p) * toProb Lx * acceptJumpDown prior w x xiDc p Lx Lxi :=
  acceptJump_balance prior w (hp true xiDc) (hp false x) (C05.jumpQ_pos w hw x).le hp0 hp1 Lxi Lx

/-- the coded jump density is a probability density on the lune box (by `C05Jump`) -/
theorem lintegral_jumpQ (hw : C05.WidthsPos w) (hn : w.propNorm = propNormOf w.gammaDc w.deltaDc)
    (d : Ori) : ∫⁻ g, ENNReal.ofReal (jumpQ w (tapeMT (d, g))) ∂luneBox = 1 := by
  obtain ⟨_, _, _, _, _, hg, hd, _⟩ := hw
  simp only [C05.jumpQ_eq_truncTerms w hg hd hn, tapeMT,
    ENNReal.ofReal_mul (C05.truncTerm_pos _ 0 hg neg_pi_div_six_lt).le]
  exact (pDens_lunePair hg hd 0 0).2

/-! the ingredients of the trans-dimensional sampler in the coordinates `Ori = (κ, h, σ)` (double
    couple), `Ori × Lune` (full tensor) -/

/-- joint posterior density over the two models: `p` × prior × likelihood on the double-couple
    model, `(1 - p)` × prior × likelihood on the full-tensor model -/
noncomputable def jointPost : Ori ⊕ Ori × Lune → ℝ≥0∞ :=
  sumTarget (ENNReal.ofReal p) (fun d => ENNReal.ofReal (post prior true L (tapeDC d)))
    (fun m => ENNReal.ofReal (post prior false L (tapeMT m)))

/-- density of the balancing draw `(γ, δ)` (`jump_params`) -/
noncomputable def jumpDens : Ori → Lune → ℝ≥0∞ := fun d g => ENNReal.ofReal (jumpQ w (tapeMT (d, g)))

/-- acceptance of the jump `tapeDC d → tapeMT (d, g)` -/
noncomputable def accUp : Ori → Lune → ℝ≥0∞ := fun d g => ENNReal.ofReal
  (acceptJumpUp prior w (tapeDC d) (tapeMT (d, g)) p (L (tapeDC d)) (L (tapeMT (d, g))))

/-- acceptance of the jump `tapeMT m → tapeDC m.1` -/
noncomputable def accDown : Ori × Lune → ℝ≥0∞ := fun m => ENNReal.ofReal
  (acceptJumpDown prior w (tapeMT m) (tapeDC m.1) p (L (tapeMT m)) (L (tapeDC m.1)))

/-- the kernel of one step of the trans-dimensional sampler: with probability `pj` the jump of
    `transDSample` with `acceptJumpUp`/`acceptJumpDown`, otherwise the shift of the current model
    (`transPdf` times the strike kernel `k`) with `acceptMH` -/
noncomputable def transDKernel (pj : ℝ) (μκ : Measure ℝ) [SFinite μκ] (k : ℝ → ℝ → ℝ) :
    Kernel (Ori ⊕ Ori × Lune) (Ori ⊕ Ori × Lune) :=
  mixKernel (ENNReal.ofReal pj)
    (jumpKernel luneBox (jumpDens w) (accUp prior w L p) (accDown prior w L p))
    (withinKernel
      (mhKernel (oriMeasure μκ)
        (fun x y => ENNReal.ofReal (propPdf true w (tapeDC x) (tapeDC y) * k x.1 y.1))
        (fun x y => ENNReal.ofReal (acc prior true w L (tapeDC x) (tapeDC y))))
      (mhKernel ((oriMeasure μκ).prod luneBox)
        (fun x y => ENNReal.ofReal (propPdf false w (tapeMT x) (tapeMT y) * k x.1.1 y.1.1))
        (fun x y => ENNReal.ofReal (acc prior false w L (tapeMT x) (tapeMT y)))))

/-- the jump balance in the form `transD_jump_stationary` needs it -/
theorem model_jump_balance (hp : ∀ b t, 0 ≤ prior b t) (hw : C05.WidthsPos w) (hp0 : 0 ≤ p)
    (hp1 : p ≤ 1) (d : Ori) (g : Lune) :
    ENNReal.ofReal p * ENNReal.ofReal (post prior true L (tapeDC d)) * jumpDens w d g
        * accUp prior w L p d g
      = (1 - ENNReal.ofReal p) * ENNReal.ofReal (post prior false L (tapeMT (d, g)))
        * accDown prior w L p (d, g) := by
  rw [← ENNReal.ofReal_one, ← ENNReal.ofReal_sub 1 hp0, ← ENNReal.ofReal_mul hp0]
  refine ofReal_balance (mul_nonneg hp0 (post_nonneg prior true L hp _))
    (C05.jumpQ_pos w hw _).le (sub_nonneg.2 hp1) (post_nonneg prior false L hp _) ?_
  unfold post
  linear_combination jump_detailed_balance_logP prior w p hp hw hp0 hp1 (tapeDC d) (tapeMT (d, g))
    (L (tapeDC d)) (L (tapeMT (d, g)))

/-- **The trans-dimensional sampler leaves the joint posterior over {double couple, full tensor}
    invariant.**  State space `Ori ⊕ Ori × Lune`: a double-couple state is its orientation
    `(κ, h, σ)`, a full-tensor state its orientation and `(γ, δ)`; reference measure: any s-finite
    `μκ` on strike, Lebesgue on `[0, 1]`, `[-π/2, π/2]` for `h`, `σ` and on the lune box
    `[-π/6, π/6] × [-π/2, π/2]` for `(γ, δ)`.  Target `jointPost`: `p` × prior × likelihood on
    the double-couple model, `(1 - p)` × prior × likelihood on the full tensor.  Kernel
    `transDKernel` (the law of `transDSample` + acceptance): with probability `pj` a jump —
    DC → MT draws `(γ, δ)` with the density `jumpQ` and keeps the orientation
    (`transDSample_up`), MT → DC sets `γ = δ = 0` (`transDSample_down`), accepted with
    `acceptJumpUp`/`acceptJumpDown` — otherwise a shift within the current model
    (`transDSample_shift`) accepted with `acceptMH`.

    Proved, not assumed: the jump balance (`C05.jump_detailed_balance`, extended to zero priors and
    zero likelihoods), the shift balance (`C05.mh_detailed_balance`), that `jumpQ` and the shift
    proposals are probability densities, measurability of proposals and acceptances, that all
    acceptances are probabilities.

    Remaining hypotheses: the sampling prior is non-negative and measurable in the coordinates of
    each model, the likelihood `toProb ∘ L` is measurable in the coordinates of each model, the
    widths are positive and `propNorm` is the coded `proposal_normalisation` (`propNormOf`),
    `p, pj ∈ [0, 1]`, and the strike proposal kernel `k` (which `transition_pdf` leaves out) is
    measurable, non-negative, symmetric and normalised w.r.t. `μκ`. -/
theorem transD_chain_posterior_stationary (hp : ∀ b t, 0 ≤ prior b t) (hw : C05.WidthsPos w)
    (hn : w.propNorm = propNormOf w.gammaDc w.deltaDc) (hp0 : 0 ≤ p) (hp1 : p ≤ 1)
    {pj : ℝ} (hj1 : pj ≤ 1) (μκ : Measure ℝ) [SFinite μκ] (k : ℝ → ℝ → ℝ)
    (hkm : Measurable (Function.uncurry k)) (hk0 : ∀ a b, 0 ≤ k a b) (hks : ∀ a b, k a b = k b a)
    (hkn : ∀ a, ∫⁻ b, ENNReal.ofReal (k a b) ∂μκ = 1)
    (hpriorD : Measurable fun d : Ori => prior true (tapeDC d))
    (hpriorM : Measurable fun m : Ori × Lune => prior false (tapeMT m))
    (hLD : Measurable fun d : Ori => toProb (L (tapeDC d)))
    (hLM : Measurable fun m : Ori × Lune => toProb (L (tapeMT m))) :
    let lam := sumMeasure (oriMeasure μκ) ((oriMeasure μκ).prod luneBox)
    let π := jointPost prior L p
    let K := transDKernel prior w L p pj μκ k
    IsMarkovKernel K ∧ Kernel.Invariant K (lam.withDensity π) ∧
    ∀ (n : ℕ) (B : Set (Ori ⊕ Ori × Lune)), MeasurableSet B →
      ((fun μ : Measure (Ori ⊕ Ori × Lune) => μ.bind K)^[n] (lam.withDensity π)) B
        = ∫⁻ x in B, π x ∂lam := by
  intro lam π K
  have hTD := measurable_transPdf_DC w
  have hTM := measurable_transPdf_MT w
  have hkD : Measurable fun q : Ori × Ori => k q.1.1 q.2.1 :=
    hkm.comp (f := fun q : Ori × Ori => (q.1.1, q.2.1)) (by fun_prop)
  have hkM : Measurable fun q : (Ori × Lune) × (Ori × Lune) => k q.1.1.1 q.2.1.1 :=
    hkm.comp (f := fun q : (Ori × Lune) × (Ori × Lune) => (q.1.1.1, q.2.1.1)) (by fun_prop)
  have h : IsMarkovKernel K ∧ Kernel.Invariant K (lam.withDensity π) ∧ _ ∧ _ :=
    transD_stationary (oriMeasure μκ) luneBox (ENNReal.ofReal_le_one.mpr hj1)
    (hpriorD.mul hLD).ennreal_ofReal (hpriorM.mul hLM).ennreal_ofReal
    (measurable_jumpQ_MT w).ennreal_ofReal
    (measurable_acceptJumpUp prior w L p hpriorD hpriorM hLD hLM).ennreal_ofReal
    (measurable_acceptJumpDown prior w L p hpriorD hpriorM hLD hLM).ennreal_ofReal
    (lintegral_jumpQ w hw hn)
    (fun d g => ENNReal.ofReal_le_one.mpr (acceptJumpUp_mem_Icc prior w p hp hw hp0 hp1 _ _ _ _).2)
    (fun m => ENNReal.ofReal_le_one.mpr (acceptJumpDown_mem_Icc prior w p hp hw hp0 hp1 _ _ _ _).2)
    (model_jump_balance prior w L p hp hw hp0 hp1)
    (hTD.mul hkD).ennreal_ofReal
    (measurable_acceptMH prior true w L tapeDC hTD hpriorD hLD).ennreal_ofReal
    (lintegral_proposal_DC w hw.2.2.2.1 hw.2.2.2.2.1 μκ k hkm hkn)
    (fun x y => ENNReal.ofReal_le_one.mpr (acc_mem_Icc prior true w L hp hw _ _).2)
    (model_shift_balance prior w L true hp hw tapeDC (fun x y => k x.1 y.1)
      (fun _ _ => hk0 _ _) (fun _ _ => hks _ _))
    (hTM.mul hkM).ennreal_ofReal
    (measurable_acceptMH prior false w L tapeMT hTM hpriorM hLM).ennreal_ofReal
    (lintegral_proposal_MT w (shiftWidths_pos hw) μκ k hkm hkn)
    (fun x y => ENNReal.ofReal_le_one.mpr (acc_mem_Icc prior false w L hp hw _ _).2)
    (model_shift_balance prior w L false hp hw tapeMT (fun x y => k x.1.1 y.1.1)
      (fun _ _ => hk0 _ _) (fun _ _ => hks _ _))
  exact ⟨h.1, h.2.1, h.2.2.2⟩

end Model

/-- the hypotheses of `transD_chain_posterior_stationary` are satisfiable: the shipped flat prior,
    a constant likelihood, unit widths with the coded `proposal_normalisation`, model probability
    and jump probability `1/2`, strike uniform on `[0, 2π]` with the uniform kernel -/
example :
    let prior : Bool → Tape ℝ → ℝ := flatPrior
    let w : Widths ℝ := ⟨1, 1, 1, 1, 1, 1, 1, propNormOf 1 1⟩
    let L : Tape ℝ → LogP ℝ := fun _ => fin 0
    let μκ : Measure ℝ := volume.restrict (Set.Icc 0 (2 * Real.pi))
    let k : ℝ → ℝ → ℝ := fun _ _ => 1 / (2 * Real.pi)
    (∀ b t, 0 ≤ prior b t) ∧ C05.WidthsPos w ∧ w.propNorm = propNormOf w.gammaDc w.deltaDc ∧
    (0:ℝ) ≤ 1 / 2 ∧ (1 / 2 : ℝ) ≤ 1 ∧ Measurable (Function.uncurry k) ∧
    (∀ a b, 0 ≤ k a b) ∧ (∀ a b, k a b = k b a) ∧ (∀ a, ∫⁻ b, ENNReal.ofReal (k a b) ∂μκ = 1) ∧
    (Measurable fun d : Ori => prior true (tapeDC d)) ∧
    (Measurable fun m : Ori × Lune => prior false (tapeMT m)) ∧
    (Measurable fun d : Ori => toProb (L (tapeDC d))) ∧
    (Measurable fun m : Ori × Lune => toProb (L (tapeMT m))) := by
  intro prior w L μκ k
  have hπ := Real.pi_pos
  exact ⟨flatPrior_nonneg, ⟨one_pos, one_pos, one_pos, one_pos, one_pos, one_pos, one_pos,
      C05.propNormOf_pos one_pos one_pos⟩, rfl, by norm_num, by norm_num, measurable_const,
    fun _ _ => by positivity, fun _ _ => rfl, fun _ => lintegral_uniform_strike, measurable_const,
    measurable_const, measurable_const, measurable_const⟩
end MTfitVerif.C07
