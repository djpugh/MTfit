import MTfitVerif.Props.C10
/-
  C10 — further property theorems: the evidence is `-∞` exactly when nothing had non-zero
  likelihood, scales inversely with the number of tried samples, combines over two runs as the
  weighted mean, is bounded by the largest likelihood; model probabilities are at most one, keep
  the number of models, and for two models are the logistic function of the evidence difference.
-/
namespace MTfitVerif.C10
open LogP Evidence

/-- no evidence at all exactly when no stored sample has a finite log-likelihood -/
theorem lnBE_negInf_iff (ls : List (LogP ℝ)) (n : ℝ) :
    lnBayesianEvidence ls n = negInf ↔ ∀ x ∈ ls, x = negInf := by
  rw [lnBE_eq_lnMargCol, subC_eq_negInf, C04.lnMargCol_negInf_iff]

/-- trying `k` times as many samples for the same stored likelihoods divides the evidence by `k` -/
theorem lnBE_tried_scaling (ls : List (LogP ℝ)) {n k : ℝ} (hn : 0 < n) (hk : 0 < k) :
    toProb (lnBayesianEvidence ls (k * n)) = toProb (lnBayesianEvidence ls n) / k := by
  rw [lnBE_eq_log_mean ls (mul_pos hk hn), lnBE_eq_log_mean ls hn, div_div, mul_comm]

/-- two runs combined: the evidence of the concatenated samples over the summed tried counts is
    the tried-count-weighted mean of the two evidences -/
theorem lnBE_append (l₁ l₂ : List (LogP ℝ)) {n₁ n₂ : ℝ} (h₁ : 0 < n₁) (h₂ : 0 < n₂) :
    toProb (lnBayesianEvidence (l₁ ++ l₂) (n₁ + n₂))
      = (n₁ * toProb (lnBayesianEvidence l₁ n₁) + n₂ * toProb (lnBayesianEvidence l₂ n₂))
          / (n₁ + n₂) := by
  rw [lnBE_eq_log_mean _ (add_pos h₁ h₂), lnBE_eq_log_mean _ h₁, lnBE_eq_log_mean _ h₂,
    List.map_append, List.sum_append, mul_div_cancel₀ _ h₁.ne', mul_div_cancel₀ _ h₂.ne']

/-- the evidence never exceeds the largest likelihood, provided every stored sample was tried -/
theorem lnBE_le_max (ls : List (LogP ℝ)) {n M : ℝ} (hn : 0 < n) (hM : 0 ≤ M)
    (hle : ∀ x ∈ ls, toProb x ≤ M) (hcount : (ls.length : ℝ) ≤ n) :
    toProb (lnBayesianEvidence ls n) ≤ M := by
  rw [lnBE_eq_log_mean ls hn, div_le_iff₀ hn]
  exact (sum_toProb_le hle).trans (mul_comm M n ▸ mul_le_mul_of_nonneg_right hcount hM)

/-- one probability per model -/
theorem modelProb_length (es : List ℝ) : (modelProbabilities es).length = es.length := by
  rw [modelProb_eq, List.length_map]

theorem modelProb_le_one (es : List ℝ) : ∀ p ∈ modelProbabilities es, p ≤ 1 := by
  intro p hp
  rw [modelProb_eq] at hp
  exact (softmax_mem_pos_le_one hp).2

/-- a larger evidence never gets the smaller probability -/
theorem modelProb_mono (es : List ℝ) (a b : ℝ) (hab : a ≤ b) :
    Real.exp a / (es.map Real.exp).sum ≤ Real.exp b / (es.map Real.exp).sum :=
  div_le_div_of_nonneg_right (Real.exp_le_exp.mpr hab)
    (List.sum_nonneg (List.forall_mem_map.2 fun y _ => (Real.exp_pos y).le))

/-- two models: the probabilities are the logistic function of the evidence difference -/
theorem modelProb_two (a b : ℝ) :
    modelProbabilities [a, b] = [1 / (1 + Real.exp (b - a)), 1 / (1 + Real.exp (a - b))] := by
  have key : ∀ {x y : ℝ}, 0 < x → x / (x + y) = 1 / (1 + y / x) := fun hx => by
    rw [← same_add_div hx.ne', one_div_div]
  rw [modelProb_eq]
  simp only [List.map_cons, List.map_nil, List.sum_cons, List.sum_nil, add_zero, Real.exp_sub]
  rw [key (Real.exp_pos a), add_comm (Real.exp a), key (Real.exp_pos b)]

end MTfitVerif.C10
