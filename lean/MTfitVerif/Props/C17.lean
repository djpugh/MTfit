import MTfitVerif.Real.FileFormatLemmas
/-
  C17 — input parsing and binary result files preserve the data they carry.
-/
namespace MTfitVerif.C17

section binary
open Binary

/-- a record as the reader returns it: the evidence is kept only with converted parameters -/
def norm (r : Record ℝ) : Record ℝ := { r with lbe := if r.converted then r.lbe else none }

/-- well-formed record: six tensor components per sample; 13 converted parameters per sample
    exactly when the record is marked converted -/
def WF (r : Record ℝ) : Prop :=
  ∀ s ∈ r.samples, s.mt.length = 6 ∧ s.conv.length = (if r.converted then 13 else 0)

/-- the `√2` scaling of the off-diagonal components is an exact inverse pair over ℝ -/
theorem sqrt2_roundtrip (x : ℝ) : Real.sqrt 2 * (x / Real.sqrt 2) = x :=
  mul_div_cancel₀ x (Real.sqrt_ne_zero'.mpr two_pos)

theorem _root_.MTfitVerif.Binary.unpack_packed (s : Sample ℝ) (h6 : s.mt.length = 6) :
    unpack (packed s) s.conv = s := by
  obtain ⟨p, lnp, mt, cv⟩ := s
  match mt, h6 with
  | [a, b, c', d, e, f], _ =>
    simp only [unpack, packed, List.getD_cons_zero, List.getD_cons_succ, flt_sqrt, flt_c, Nat.cast_ofNat, Nat.cast_zero,
      sqrt2_roundtrip]

theorem readSamples_write (conv : Bool) (ss : List (Sample ℝ)) (rest : List (Word ℝ))
    (h : ∀ s ∈ ss, s.mt.length = 6 ∧ s.conv.length = (if conv then 13 else 0)) :
    readSamples conv ss.length (ss.flatMap (writeSample conv) ++ rest) = some (ss, rest) := by
  induction ss with
  | nil => simp [readSamples]
  | cons s ss ih =>
    obtain ⟨hs, h⟩ := List.forall_mem_cons.mp h
    rw [List.flatMap_cons, List.append_assoc, List.length_cons, readSamples_succ, writeSample_eq conv s hs.2,
      List.append_assoc, takeD_map 8 _ _ rfl, Option.bind_some, takeD_map _ _ _ hs.2, Option.bind_some,
      unpack_packed s hs.1, ih h]
    rfl

/-- reading one record from the front of a stream returns it and the untouched remainder -/
theorem readOne_write (r : Record ℝ) (h : WF r) (rest : List (Word ℝ)) :
    readOne (write r ++ rest) = some (norm r, rest) := by
  have hrs := readSamples_write r.converted r.samples rest h
  simp only [write, List.cons_append, List.nil_append, readOne, hrs]
  rfl

/-- writing any number of records one after the other and reading the stream back returns the
    same records: tensors, probabilities, log-probabilities, counts and converted parameters —
    for 0..n samples each, converted or not -/
theorem read_write_binary (rs : List (Record ℝ)) (h : ∀ r ∈ rs, WF r) (fuel : Nat)
    (hf : rs.length ≤ fuel) :
    read fuel (rs.flatMap write) = some (rs.map norm) := by
  induction rs generalizing fuel with
  | nil => cases fuel <;> rfl
  | cons r rs ih =>
    obtain ⟨fuel, rfl⟩ : ∃ f, fuel = f + 1 := ⟨fuel - 1, by rw [List.length_cons] at hf; omega⟩
    obtain ⟨hr, h⟩ := List.forall_mem_cons.mp h
    rw [List.flatMap_cons, read_of_readOne (readOne_write r hr _), ih h fuel (Nat.le_of_succ_le_succ hf)]
    rfl

/-- the sample count in the header is the number of samples written -/
theorem write_header (r : Record ℝ) :
    (write r).take 4 = [Word.q 2, Word.q r.total, Word.q r.samples.length, Word.b r.converted] := by
  rfl

end binary

section csv
open Csv

/-- lines of one data type: its type line, a header and one row per station -/
def typeLines (k : String) (i : Idx) (rows : List (List String)) : List CLine :=
  CLine.typ k :: CLine.header i :: rows.map CLine.row

/-- a single type: every station row is extracted with the column indices of the header in
    force, row for row -/
theorem parseEvent_single (ps : PState) (du k : String) (i : Idx) (rows : List (List String))
    (hne : rows ≠ []) :
    parseEvent ps du (typeLines k i rows)
      = ({ uid := du, types := [(k, rows.map (mkRow i))] }, { key := k, idx := i }) := by
  have hfl := flush_block k i rows { ps := ps, uid := du, rows := [], types := [] } hne
    (by simp [flush])
  simp only [parseEvent, typeLines, foldl_stepLine_block]
  rw [hfl]
  simp [flush]

/-- an explicit UID line overrides the default -/
theorem parseEvent_uid (ps : PState) (du u k : String) (i : Idx) (rows : List (List String))
    (hne : rows ≠ []) :
    (parseEvent ps du (CLine.uid u :: typeLines k i rows)).1
      = { uid := u, types := [(k, rows.map (mkRow i))] } := by
  have hfl := flush_block k i rows
    (stepLine { ps := ps, uid := du, rows := [], types := [] } (CLine.uid u)) hne
    (by simp [flush, stepLine])
  simp only [parseEvent, typeLines]
  rw [List.foldl_cons, foldl_stepLine_block, hfl]
  simp [flush, stepLine]

/-- several types with distinct keys: each keeps its own rows, in file order, each read with
    its own header -/
theorem parseEvent_types (ps : PState) (du : String) (ts : List (String × Idx × List (List String)))
    (hne : ∀ t ∈ ts, t.2.2 ≠ []) (hk : (ts.map (·.1)).Nodup) :
    (parseEvent ps du (ts.flatMap fun t => typeLines t.1 t.2.1 t.2.2)).1
      = { uid := du, types := ts.map fun t => (t.1, t.2.2.map (mkRow t.2.1)) } := by
  have := foldl_stepLine_blocks ts { ps := ps, uid := du, rows := [], types := [] } hne (by simpa [flush] using hk)
  simp only [parseEvent, typeLines]
  rw [this.1, this.2]
  simp [flush]

/-- column order does not matter: a row read through a header depends only on the fields the
    header points at -/
theorem mkRow_header_invariant (i j : Idx) (f g : List String)
    (h1 : f.getD i.name "" = g.getD j.name "") (h2 : f.getD i.takeoff "" = g.getD j.takeoff "")
    (h3 : f.getD i.azimuth "" = g.getD j.azimuth "") (h4 : f.getD i.measured "" = g.getD j.measured "")
    (h5 : f.getD i.error "" = g.getD j.error "") : mkRow i f = mkRow j g := by
  simp only [mkRow, h1, h2, h3, h4, h5]

/-- one parsed event per event block, in file order, whatever their number -/
theorem parseEvents_length (ps : PState) (n : Nat) (evs : List (String × List CLine)) :
    (parseEvents ps n evs).length = evs.length := by
  induction evs generalizing ps n with
  | nil => simp [parseEvents]
  | cons e evs ih =>
    obtain ⟨du, ls⟩ := e
    simp [parseEvents, ih]

/-- hyp files: every sufficiently long line between PHASE and END_PHASE yields its pick (station,
    phase, polarity, uncertainty, azimuth, take-off), in file order; lines outside yield none -/
theorem picks_phase_block (pre block post : List (List String))
    (hpre : ∀ l ∈ pre, l.headD "" ≠ "PHASE") (hb : ∀ l ∈ block, l.headD "" ≠ "PHASE" ∧ l.headD "" ≠ "END_PHASE")
    (hpost : ∀ l ∈ post, l.headD "" ≠ "PHASE") :
    picks (pre ++ [["PHASE"]] ++ block ++ [["END_PHASE"]] ++ post) = block.filterMap pickOf := by
  rw [picks_eq]
  simp only [List.foldl_append, List.foldl_cons, List.foldl_nil]
  rw [foldl_pickStep_outside pre [] hpre, pickStep_phase, foldl_pickStep_inside block _ hb, pickStep_end,
    foldl_pickStep_outside post _ hpost]
  simp

end csv

end MTfitVerif.C17
