import MTfitVerif.Real.ConvertLemmasSdr
/-
  C13 — strike/dip/rake, principal axes and normal/slip describe one and the same source.
-/
namespace MTfitVerif.C13
open MTfitVerif.Convert Real MTfitVerif.ConvertSdr

/-- the (unnormalised) double-couple tensor of a fault normal `n` and slip vector `s`:
    `n sᵀ + s nᵀ` -/
def dcTensor (n s : V3 ℝ) : Sym3 ℝ :=
  ⟨2 * n.x * s.x, 2 * n.y * s.y, 2 * n.z * s.z,
   n.x * s.y + n.y * s.x, n.x * s.z + n.z * s.x, n.y * s.z + n.z * s.y⟩

/-- the slip vector and the fault normal built from strike, dip, rake are unit and perpendicular,
    for every strike, dip and rake -/
theorem sdrVecs_unit_perp (s d r : ℝ) :
    V3.dot (sdrVec1 s d r) (sdrVec1 s d r) = 1 ∧ V3.dot (sdrVec2 s d) (sdrVec2 s d) = 1 ∧
    V3.dot (sdrVec1 s d r) (sdrVec2 s d) = 0 :=
  ⟨sdrVec1_unit s d r, sdrVec2_unit s d, sdrVec_perp s d r⟩

/-- closed form of the principal axes: `T = (v₁+v₂)/√2`, `P = (v₁−v₂)/√2`, `N = −T×P` -/
theorem sdrToTnp_closed (s d r : ℝ) :
    (sdrToTnp s d r).1 = V3.sdiv (V3.add (sdrVec1 s d r) (sdrVec2 s d)) (√2) ∧
    (sdrToTnp s d r).2.2 = V3.sdiv (V3.sub (sdrVec1 s d r) (sdrVec2 s d)) (√2) := by
  rw [sdrToTnp_eq]
  exact ⟨rfl, rfl⟩

/-- the tension, null and pressure axes are orthonormal for every strike, dip and rake -/
theorem sdrToTnp_orthonormal (s d r : ℝ) :
    let T := (sdrToTnp s d r).1; let N := (sdrToTnp s d r).2.1; let P := (sdrToTnp s d r).2.2
    V3.dot T T = 1 ∧ V3.dot N N = 1 ∧ V3.dot P P = 1 ∧ V3.dot T N = 0 ∧ V3.dot T P = 0 ∧ V3.dot N P = 0 :=
  tnp_orthonormal (sdrVec1_unit s d r) (sdrVec2_unit s d) (sdrVec_perp s d r)

/-- axes → normal/slip returns the two vectors the angles were built from -/
theorem sdrToFp_eq (s d r : ℝ) : sdrToFp s d r = (sdrVec1 s d r, sdrVec2 s d) :=
  tpToFp_fpToTnp (sdrVec1_unit s d r) (sdrVec2_unit s d) (sdrVec_perp s d r)

theorem dcTensor_symm (n s : V3 ℝ) : dcTensor n s = dcTensor s n := by
  simp only [dcTensor, Sym3.mk.injEq]
  refine ⟨?_, ?_, ?_, ?_, ?_, ?_⟩ <;> ring

/-- the axes rebuild the same double-couple tensor: `T Tᵀ − P Pᵀ = n sᵀ + s nᵀ` -/
theorem axes_same_tensor (s d r : ℝ) :
    let T := (sdrToTnp s d r).1; let N := (sdrToTnp s d r).2.1; let P := (sdrToTnp s d r).2.2
    rebuild T N P ⟨1, 0, -1⟩ = dcTensor (sdrVec2 s d) (sdrVec1 s d r) := by
  rw [sdrToTnp_eq]
  simp only [rebuild, dcTensor, V3.sdiv, V3.add, V3.sub, Sym3.mk.injEq, div_mul_div_comm, sqrt2_mul_self]
  refine ⟨?_, ?_, ?_, ?_, ?_, ?_⟩ <;> ring

/-- the angle ranges of the returned plane: strike in [0, 2π), dip in [0, π/2], rake in [−π, π] -/
theorem fpToSdr_ranges (n s : V3 ℝ) :
    0 ≤ (fpToSdr n s).1 ∧ (fpToSdr n s).1 < 2 * π ∧ 0 ≤ (fpToSdr n s).2.1 ∧ (fpToSdr n s).2.1 ≤ π / 2 ∧
    -π ≤ (fpToSdr n s).2.2 ∧ (fpToSdr n s).2.2 ≤ π := by
  obtain ⟨m, t, -, -, h⟩ := exists_fpToSdr_eq n s
  rw [h]
  exact ⟨mod2pi_nonneg _, mod2pi_lt _, (sdOf_dip_mem m).1, (sdOf_dip_mem m).2,
    (rakeOf_mem _ _).1.le, (rakeOf_mem _ _).2⟩

/-- converting normal/slip back gives the original angles (non-horizontal planes) -/
theorem fpToSdr_of_sdr {s d r : ℝ} (hs0 : 0 ≤ s) (hs1 : s < 2 * π) (hd0 : 0 < d) (hd1 : d ≤ π / 2)
    (hr0 : -π < r) (hr1 : r ≤ π) :
    fpToSdr (sdrVec2 s d) (sdrVec1 s d r) = (s, d, r) := by
  rw [fpToSdr_of_unit (sdrVec2_unit s d) (sdrVec1_unit s d r) (sdrVec2_z_nonpos s (cos_dip_nonneg hd0 hd1)),
    rakeOf_sdrVecs s hd0 hd1 hr0 hr1, sdOf_sdrVec2 s hd0 hd1, mod2pi_of_mem hs0 hs1, mod2pi_of_mem hs0 hs1]

/-- `SDR_SDR` returns the plane whose normal is the slip vector of the input, for every strike, dip and
    rake: of the two candidates the input plane itself has `normalDot = 1`, the auxiliary plane `0` -/
theorem _root_.MTfitVerif.ConvertSdr.sdrToSdr_eq_fpToSdr (s d r : ℝ) :
    sdrToSdr s d r = fpToSdr (sdrVec1 s d r) (sdrVec2 s d) := by
  obtain ⟨h1, h2, h3⟩ := sdrVecs_unit_perp s d r
  simp only [sdrToSdr, sdrToFp_eq, normalDot_fpToSdr h1 h2, normalDot_fpToSdr h2 h1, h3, h2, abs_zero, abs_one, flt_ltb,
    zero_lt_one, decide_true, if_true]

-- (the six range hypotheses `hs0` … `hr1` are not needed by the proof: `sdrToSdr_eq_fpToSdr` has none)
set_option linter.unusedVariables false in
/-- the auxiliary-plane conversion returns the other nodal plane: the one whose normal is the
    slip vector of the input -/
theorem sdrToSdr_is_aux {s d r : ℝ} (hs0 : 0 ≤ s) (hs1 : s < 2 * π) (hd0 : 0 < d) (hd1 : d ≤ π / 2)
    (hr0 : -π < r) (hr1 : r ≤ π) :
    sdrToSdr s d r = fpToSdr (sdrVec1 s d r) (sdrVec2 s d) :=
  sdrToSdr_eq_fpToSdr s d r

/-- axes → angles returns a nodal plane of the same source (the auxiliary one) -/
theorem tnpToSdr_of_sdr (s d r : ℝ) :
    tnpToSdr (sdrToTnp s d r).1 (sdrToTnp s d r).2.2 = fpToSdr (sdrVec1 s d r) (sdrVec2 s d) := by
  rw [tnpToSdr, sdrToTnp, tpToFp_fpToTnp (sdrVec1_unit s d r) (sdrVec2_unit s d) (sdrVec_perp s d r)]

/-- the slip vector of a plane with `0 < dip < π/2` is not vertical; it and the normal, or their
    negatives, are a unit perpendicular pair -/
theorem aux_plane_facts {s d r : ℝ} (hd0 : 0 < d) (hd1 : d < π / 2) {m t : V3 ℝ}
    (hc : (m = sdrVec1 s d r ∧ t = sdrVec2 s d) ∨ (m = (sdrVec1 s d r).neg ∧ t = (sdrVec2 s d).neg)) :
    V3.dot m m = 1 ∧ V3.dot t t = 1 ∧ V3.dot m t = 0 ∧ (m.x ≠ 0 ∨ m.y ≠ 0) := by
  obtain ⟨h1, h2, h3⟩ := sdrVecs_unit_perp s d r
  have hcd := cos_dip_pos hd0 hd1
  have hxy : (sdrVec1 s d r).x ≠ 0 ∨ (sdrVec1 s d r).y ≠ 0 := by
    by_contra hcon
    rw [not_or, not_not, not_not] at hcon
    have := sdrVec1_xy s d r
    rw [hcon.1, hcon.2, zero_pow two_ne_zero, add_zero] at this
    exact (by positivity : (0 : ℝ) < cos d ^ 2 + sin d ^ 2 * cos r ^ 2).ne this
  rcases hc with ⟨rfl, rfl⟩ | ⟨rfl, rfl⟩
  · exact ⟨h1, h2, h3, hxy⟩
  · exact ⟨by rw [V3.dot_neg_neg, h1], by rw [V3.dot_neg_neg, h2], by rw [V3.dot_neg_neg, h3],
      hxy.imp neg_ne_zero.mpr neg_ne_zero.mpr⟩

/-- for a plane with slip angle strictly inside (−π/2, π/2) the auxiliary plane has rake outside
    [−π/2, π/2]: exactly one nodal plane lies in the Tape slip range -/
theorem aux_rake_outside {s d r : ℝ} (hd0 : 0 < d) (hd1 : d < π / 2) (hr : |r| < π / 2) :
    π / 2 < |(fpToSdr (sdrVec1 s d r) (sdrVec2 s d)).2.2| := by
  obtain ⟨h1, h2, -⟩ := sdrVecs_unit_perp s d r
  have hsd := sin_dip_pos hd0 hd1.le
  have hcr : 0 < cos r := Real.cos_pos_of_mem_Ioo (abs_lt.mp hr)
  have key : (sdrVec2 s d).x * (sdrVec1 s d r).y - (sdrVec2 s d).y * (sdrVec1 s d r).x < 0 := by
    linarith [sdrVec_cross_z s d r, mul_pos hsd hcr]
  obtain ⟨m, t, hc, hmz, h⟩ := exists_fpToSdr_eq_of_unit h1 h2
  obtain ⟨fm, -, fp, fxy⟩ := aux_plane_facts hd0 hd1 hc
  rw [h, rakeOf_eq fm fp hmz (hlen_pos fxy)]
  apply pi_div_two_lt_abs_atan2
  rcases hc with ⟨rfl, rfl⟩ | ⟨rfl, rfl⟩
  · exact key
  · simp only [V3.neg, neg_mul_neg]; exact key

/-- right inverse: the angles returned for a unit normal `n` (pointing up, `n.z < 0`, not
    vertical) and a unit slip vector perpendicular to it reproduce `n` and the slip vector -/
theorem sdrVecs_of_fpToSdr (n sl : V3 ℝ) (hn : V3.dot n n = 1) (hs : V3.dot sl sl = 1) (hp : V3.dot n sl = 0)
    (hz : n.z < 0) (hxy : n.x ≠ 0 ∨ n.y ≠ 0) :
    let p := fpToSdr n sl
    sdrVec2 p.1 p.2.1 = n ∧ sdrVec1 p.1 p.2.1 p.2.2 = sl := by
  rw [fpToSdr_of_unit hn hs hz.le]
  exact sdrVecs_of_angles hn hs hp hz.le (hlen_pos hxy)

/-- general form of `sdrToSdr_involutive`: only `dip < π/2` is needed (rake may be `0` or `π`) -/
theorem sdrToSdr_involutive_gen {s d r : ℝ} (hs0 : 0 ≤ s) (hs1 : s < 2 * π) (hd0 : 0 < d) (hd1 : d < π / 2)
    (hr0 : -π < r) (hr1 : r ≤ π) :
    let a := sdrToSdr s d r
    sdrToSdr a.1 a.2.1 a.2.2 = (s, d, r) ∧
    dcTensor (sdrVec2 a.1 a.2.1) (sdrVec1 a.1 a.2.1 a.2.2) = dcTensor (sdrVec2 s d) (sdrVec1 s d r) := by
  intro a
  have ha : a = fpToSdr (sdrVec1 s d r) (sdrVec2 s d) := sdrToSdr_eq_fpToSdr s d r
  obtain ⟨h1, h2, -⟩ := sdrVecs_unit_perp s d r
  have hcd := cos_dip_pos hd0 hd1
  obtain ⟨m, t, hc, hmz, h⟩ := exists_fpToSdr_eq_of_unit h1 h2
  obtain ⟨fm, ft, fp, fxy⟩ := aux_plane_facts hd0 hd1 hc
  -- in both cases `(t, m)` as (normal, slip) describes `(s, d, r)` and the tensor is the same
  have facts : fpToSdr t m = (s, d, r) ∧ dcTensor m t = dcTensor (sdrVec2 s d) (sdrVec1 s d r) := by
    rcases hc with ⟨rfl, rfl⟩ | ⟨rfl, rfl⟩
    · exact ⟨fpToSdr_of_sdr hs0 hs1 hd0 hd1.le hr0 hr1, dcTensor_symm _ _⟩
    · refine ⟨?_, ?_⟩
      · rw [fpToSdr_neg_neg, fpToSdr_of_sdr hs0 hs1 hd0 hd1.le hr0 hr1]
        rw [V3.unit_of_unit h2]; exact (neg_lt_zero.mpr hcd).ne
      · rw [dcTensor_symm (sdrVec2 s d)]
        simp only [dcTensor, V3.neg, Sym3.mk.injEq]
        refine ⟨?_, ?_, ?_, ?_, ?_, ?_⟩ <;> ring
  obtain ⟨fback, ften⟩ := facts
  obtain ⟨e2, e1⟩ := sdrVecs_of_angles fm ft fp hmz (hlen_pos fxy)
  rw [ha, h]
  refine ⟨?_, ?_⟩
  · show sdrToSdr (mod2pi (sdOf m).1) (sdOf m).2 (rakeOf m t) = _
    rw [sdrToSdr_eq_fpToSdr, e1, e2, fback]
  · show dcTensor (sdrVec2 (mod2pi (sdOf m).1) (sdOf m).2)
      (sdrVec1 (mod2pi (sdOf m).1) (sdOf m).2 (rakeOf m t)) = _
    rw [e1, e2, ften]

/-- the auxiliary-plane conversion is an involution and both planes give the same tensor
    (generic planes: `0 < dip < π/2`, rake not a multiple of π/2·… see hypotheses).
    The hypotheses `r < π` and `r ≠ 0` are not needed: see `sdrToSdr_involutive_gen`. -/
theorem sdrToSdr_involutive {s d r : ℝ} (hs0 : 0 ≤ s) (hs1 : s < 2 * π) (hd0 : 0 < d) (hd1 : d < π / 2)
    (hr0 : -π < r) (hr1 : r < π) (_hr : r ≠ 0) :
    let a := sdrToSdr s d r
    sdrToSdr a.1 a.2.1 a.2.2 = (s, d, r) ∧
    dcTensor (sdrVec2 a.1 a.2.1) (sdrVec1 a.1 a.2.1 a.2.2) = dcTensor (sdrVec2 s d) (sdrVec1 s d r) := by
  exact sdrToSdr_involutive_gen hs0 hs1 hd0 hd1 hr0 hr1.le

end MTfitVerif.C13
