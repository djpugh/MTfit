import MTfitVerif.Real.ConvertLemmasLune
import MTfitVerif.Props.C13
/-
  C12 — Tape-parameter and six-vector descriptions of a source are mutually inverse.
-/
namespace MTfitVerif.C12
open MTfitVerif.Convert Real

/-- the six-vector has the Frobenius norm of the tensor: the conversion preserves the tensor up to
    normalisation, and is the identity on unit tensors -/
theorem mt6_of_mt33_of_unit (m : Sym3 ℝ) (h : frob2 m = 1) : mt6ToMt33 (mt33ToMt6 m) = m := by
  rw [mt33ToMt6_of_unit h, mt6ToMt33_lune_raw6]

theorem mt33_of_mt6_of_unit (v : V6 ℝ) (h : v.a^2 + v.b^2 + v.c^2 + v.d^2 + v.e^2 + v.f^2 = 1) :
    mt33ToMt6 (mt6ToMt33 v) = v := by
  have hn : (lune_raw6 (mt6ToMt33 v)).norm = 1 := by
    rw [lune_raw6_mt6ToMt33, V6.norm, flt_sqrt, Real.sqrt_eq_one]
    linear_combination h
  rw [mt33ToMt6_of_norm_one hn, lune_raw6_mt6ToMt33]

/-- the six-vector produced always has unit norm (non-zero tensor) -/
theorem mt33ToMt6_unit (m : Sym3 ℝ) (h : frob2 m ≠ 0) :
    let v := mt33ToMt6 m
    v.a^2 + v.b^2 + v.c^2 + v.d^2 + v.e^2 + v.f^2 = 1 := by
  intro v
  have hpos : 0 ≤ frob2 m := by unfold frob2; positivity
  have hn2 : (lune_raw6 m).norm ^ 2 = frob2 m := by
    rw [lune_raw6_norm]; exact Real.sq_sqrt hpos
  simp only [v, mt33ToMt6_eq, div_pow, mul_pow, Real.sq_sqrt (show (0:ℝ) ≤ 2 by norm_num), hn2, ← add_div]
  rw [div_eq_one_iff_eq h]; unfold frob2; ring

/-- eigenvalues from lune coordinates have unit norm … -/
theorem gdToE_unit (γ δ : ℝ) : (gdToE γ δ).x^2 + (gdToE γ δ).y^2 + (gdToE γ δ).z^2 = 1 := by
  rw [gdToE_eq]
  simp only [div_sqrt_sq _ (show (0:ℝ) ≤ 6 by norm_num), ← add_div]
  rw [div_eq_one_iff_eq (by norm_num)]
  linear_combination 2 * (cos γ * cos δ) ^ 2 * sqrt3_mul_self + 3 * sin δ ^ 2 * sqrt2_mul_self
    + 6 * cos δ ^ 2 * Real.sin_sq_add_cos_sq γ + 6 * Real.sin_sq_add_cos_sq δ

/-- … and are ordered from largest to smallest on the fundamental lune -/
theorem gdToE_sorted {γ δ : ℝ} (hγ : |γ| ≤ π / 6) (hδ : |δ| ≤ π / 2) :
    (gdToE γ δ).z ≤ (gdToE γ δ).y ∧ (gdToE γ δ).y ≤ (gdToE γ δ).x := by
  have h3 : π / 6 + π / 6 ≤ π := by linarith [Real.pi_pos]
  have hs : ∀ {t : ℝ}, |t| ≤ π / 6 → 0 ≤ 2 * √3 / √6 * cos δ * sin (π / 6 + t) := fun ht =>
    mul_nonneg (mul_nonneg (by positivity) (Real.cos_nonneg_of_mem_Icc (abs_le.mp hδ)))
      (Real.sin_nonneg_of_nonneg_of_le_pi (neg_le_iff_add_nonneg'.mp (abs_le.mp ht).1)
        ((add_le_add_right (abs_le.mp ht).2 _).trans h3))
  constructor
  · rw [← sub_nonneg, gdToE_y_sub_z]; exact hs hγ
  · rw [← sub_nonneg, gdToE_x_sub_y, sub_eq_add_neg]; exact hs (by rwa [abs_neg])

/-- `(γ, δ) = (0, 0)` gives exactly the double-couple pattern -/
theorem zero_is_dc : gdToE 0 0 = ⟨1 / √2, 0, -(1 / √2)⟩ := by
  have h : (√3 : ℝ) / √6 = 1 / √2 := by
    rw [sqrt6_eq, mul_comm, div_mul_cancel_left₀ (by positivity), one_div]
  rw [gdToE_eq]
  simp only [Real.sin_zero, Real.cos_zero, mul_one, mul_zero, sub_zero, add_zero, zero_div, neg_div, h]

/-- lune coordinates always lie in their documented ranges -/
theorem eToGd_range (e : V3 ℝ) :
    |(eToGd e).1| ≤ π / 6 ∧ |(eToGd e).2| ≤ π / 2 := by
  by_cases h : e.x = e.y ∧ e.y = e.z
  · rw [eToGd_of_eq e h]
    refine ⟨by simp only [abs_zero]; positivity, ?_⟩
    rw [mul_div_assoc, abs_mul, abs_of_pos (by positivity : (0:ℝ) < π / 2)]
    exact mul_le_of_le_one_left (by positivity) (abs_sign_le_one e.x)
  · rw [eToGd_of_ne e h]
    obtain ⟨s1, s2, -⟩ := sort3_spec e
    have hlt : (sort3 e).z < (sort3 e).x :=
      lt_of_le_of_ne (s1.trans s2) fun h' => h (sort3_ends_eq e h'.symm)
    exact ⟨abs_atan2_le_pi_div_six (sub_pos.mpr hlt) (abs_le.mpr ⟨by linarith, by linarith⟩),
      abs_pi_div_two_sub_arccos_le _⟩

/-- lune coordinates invert the eigenvalue map away from the isotropic poles -/
theorem eToGd_gdToE {γ δ : ℝ} (hγ : |γ| ≤ π / 6) (hδ : |δ| < π / 2) : eToGd (gdToE γ δ) = (γ, δ) := by
  obtain ⟨s1, s2⟩ := gdToE_sorted hγ hδ.le
  have hne : ¬((gdToE γ δ).x = (gdToE γ δ).y ∧ (gdToE γ δ).y = (gdToE γ δ).z) :=
    fun h => (gdToE_z_lt_x hγ hδ).ne' (h.1.trans h.2)
  have hm : (gdToE γ δ).x * (gdToE γ δ).x + (gdToE γ δ).y * (gdToE γ δ).y + (gdToE γ δ).z * (gdToE γ δ).z = 1 := by
    linear_combination gdToE_unit γ δ
  have g := abs_lt.mp (hγ.trans_lt (div_lt_self Real.pi_pos (by norm_num)))
  obtain ⟨d1, d2⟩ := abs_lt.mp hδ
  rw [eToGd_of_ne _ hne, sort3_of_sorted _ s1 s2, gdToE_lon_y, gdToE_lon_x,
    gdToE_sum, hm, Real.sqrt_one, mul_one,
    atan2_polar (mul_pos (by positivity) (cos_pos_of_mem_Ioo ⟨d1, d2⟩)) ⟨g.1, g.2.le⟩,
    mul_div_cancel_left₀ _ (by positivity : (√3 : ℝ) ≠ 0), Real.arccos_eq_pi_div_two_sub_arcsin,
    Real.arcsin_sin d1.le d2.le, sub_sub_cancel]

/-- at the poles the latitude is recovered and the longitude is reported as 0 -/
theorem eToGd_gdToE_pole (γ : ℝ) : eToGd (gdToE γ (π / 2)) = (0, π / 2) ∧ eToGd (gdToE γ (-(π / 2))) = (0, -(π / 2)) := by
  have h2 : (0:ℝ) < √2 / √6 := by positivity
  constructor
  · rw [gdToE_of_cos_eq_zero γ Real.cos_pi_div_two, eToGd_of_eq _ ⟨rfl, rfl⟩, Real.sin_pi_div_two, mul_one,
      sign_of_pos h2, one_mul]
  · rw [gdToE_of_cos_eq_zero γ (by rw [Real.cos_neg, Real.cos_pi_div_two]), eToGd_of_eq _ ⟨rfl, rfl⟩,
      Real.sin_neg, Real.sin_pi_div_two, mul_neg_one, neg_div, sign_of_neg (neg_neg_of_pos h2), neg_one_mul, neg_div]

/-- a double-couple (eigenvalues proportional to (1, 0, −1)) maps to zero longitude and latitude: it is a
    positive multiple of `gdToE 0 0` -/
theorem dc_maps_to_zero {k : ℝ} (hk : 0 < k) : eToGd ⟨k, 0, -k⟩ = (0, 0) := by
  have h2 : (0:ℝ) < √2 := by positivity
  have e : (⟨k, 0, -k⟩ : V3 ℝ) = V3.smul (k * √2) (gdToE 0 0) := by
    rw [zero_is_dc]
    simp only [V3.smul, mul_zero, mul_neg, mul_one_div, mul_div_cancel_right₀ _ h2.ne']
  rw [e, eToGd_scale _ (mul_pos hk h2), eToGd_gdToE (by rw [abs_zero]; positivity) (by rw [abs_zero]; positivity)]

theorem _root_.MTfitVerif.Convert.frob2_tape (γ δ κ h σ : ℝ) : frob2 (tapeToMt33 γ δ κ h σ) = 1 := by
  obtain ⟨h1, h2, h3, h4, h5, h6⟩ := C13.sdrToTnp_orthonormal κ (Flt.acos h) σ
  exact (rebuild_frob_orthonormal _ h1 h2 h3 h4 h5 h6).trans (gdToE_unit γ δ)

-- (`hh` is not needed by the proof: the identity holds for any dip angle, hence for `arccos h` of any real `h`)
set_option linter.unusedVariables false in
/-- the tensor built from in-domain Tape parameters has unit Frobenius norm, so its six-vector is
    not rescaled and has unit norm -/
theorem tapeToMt33_unit (γ δ κ σ : ℝ) {h : ℝ} (hh : -1 ≤ h ∧ h ≤ 1) : frob2 (tapeToMt33 γ δ κ h σ) = 1 :=
  frob2_tape γ δ κ h σ

/-- parameters → tensor → parameters, given the eigen-decomposition the tensor was built from
    (axes up to the solver's sign freedom are handled by `tnpToSdr`'s normalisation): the source-type
    pair is recovered exactly -/
theorem eigToTape_source_type {γ δ : ℝ} (hγ : |γ| ≤ π / 6) (hδ : |δ| < π / 2) (T P : V3 ℝ) :
    (eigToTape T P (gdToE γ δ)).1 = γ ∧ (eigToTape T P (gdToE γ δ)).2.1 = δ := by
  have h := eToGd_gdToE hγ hδ
  simp only [eigToTape, h, and_self]

/-- the returned dip cosine and slip always lie in the Tape ranges when the slip switch fires
    correctly: `h ∈ [0,1]` -/
theorem eigToTape_h_range (T P e : V3 ℝ) :
    0 ≤ (eigToTape T P e).2.2.2.1 ∧ (eigToTape T P e).2.2.2.1 ≤ 1 := by
  have cr : ∀ n s : V3 ℝ, 0 ≤ cos (fpToSdr n s).2.1 ∧ cos (fpToSdr n s).2.1 ≤ 1 := fun n s =>
    ⟨Real.cos_nonneg_of_mem_Icc ⟨(neg_nonpos.mpr (by positivity)).trans (C13.fpToSdr_ranges n s).2.2.1,
      (C13.fpToSdr_ranges n s).2.2.2.1⟩, Real.cos_le_one _⟩
  simp only [eigToTape, tnpToSdr, flt_cos, ConvertSdr.sdrToSdr_eq_fpToSdr, Prod.mk.eta]
  split <;> exact cr _ _

end MTfitVerif.C12
