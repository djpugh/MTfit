import MTfitVerif.Real.MultiEventLemmas
/-
  C15 — joint multi-event posterior: structure (additivity, independence, station intersection).
-/
namespace MTfitVerif.C15
open MultiEvent LogP

/-- the pair terms in the order the loop adds them: for every event, one term with every earlier
    event -/
noncomputable def pairTermsAux (minInt : Nat) : List (Event ℝ) → List (Event ℝ) → List (LogP ℝ)
  | _, [] => []
  | done, e :: rest => done.map (fun ej => pairTerm minInt e ej) ++ pairTermsAux minInt (done ++ [e]) rest

noncomputable def pairTerms (minInt : Nat) (evs : List (Event ℝ)) : List (LogP ℝ) := pairTermsAux minInt [] evs

/-- `pairTermsAux` is the list used by the helper lemmas -/
theorem pairTermsAux_eq (minInt : Nat) (done rest : List (Event ℝ)) :
    pairTermsAux minInt done rest = pairTermsAuxL minInt done rest := by
  induction rest generalizing done with
  | nil => rfl
  | cons e rest ih => rw [pairTermsAux, pairTermsAuxL, ih]

theorem pairTerms_eq (minInt : Nat) (evs : List (Event ℝ)) :
    pairTerms minInt evs = pairTermsAuxL minInt [] evs := pairTermsAux_eq minInt [] evs

/-- additivity in the log domain (`-∞` absorbing) -/
theorem joint_eq_sum (relative : Bool) (minInt : Nat) (evs : List (Event ℝ)) :
    joint relative minInt evs =
      LogP.add (LogP.sum (evs.map (·.ln))) (if relative then LogP.sum (pairTerms minInt evs) else fin 0) := by
  rw [pairTerms_eq, joint, jointAux_eq, flt_c, Nat.cast_zero, fin_zero_add]

/-- **Additivity**: the joint probability of a tuple is the product of the events' own
    probabilities and, when relative amplitudes are used, of one term per event pair (in logs:
    the sum of the events' log-probabilities plus the pair terms), for any number of events. -/
theorem joint_eq_product (relative : Bool) (minInt : Nat) (evs : List (Event ℝ)) :
    toProb (joint relative minInt evs) =
      (evs.map fun e => toProb e.ln).prod *
        (if relative then ((pairTerms minInt evs).map toProb).prod else 1) := by
  rw [joint_eq_sum, toProb_add, toProb_sum, List.map_map]
  congr 1
  cases relative
  · simp
  · simp [toProb_sum]

/-- the joint probability is zero exactly when an event or a used pair term has probability zero -/
theorem joint_eq_negInf_iff (relative : Bool) (minInt : Nat) (evs : List (Event ℝ)) :
    joint relative minInt evs = negInf ↔
      (∃ e ∈ evs, e.ln = negInf) ∨ (relative = true ∧ negInf ∈ pairTerms minInt evs) := by
  rw [joint_eq_sum, add_eq_negInf_iff, sum_eq_negInf_iff, List.mem_map]
  cases relative
  · simp only [Bool.false_eq_true, if_false, false_and, or_false, reduceCtorEq]
  · simp only [if_true, sum_eq_negInf_iff, true_and]

/-- **Independence**: without relative data the joint probability is the product of the events'
    own probabilities -/
theorem joint_independent (minInt : Nat) (evs : List (Event ℝ)) :
    toProb (joint false minInt evs) = (evs.map fun e => toProb e.ln).prod := by
  rw [joint_eq_product]
  simp

/-- without relative data the joint value depends on the events' own log-probabilities only, not on
    the relative observations, the candidate sources or the minimum intersection -/
theorem joint_independent_of_relative_data (minInt minInt' : Nat) (evs evs' : List (Event ℝ))
    (h : evs.map (·.ln) = evs'.map (·.ln)) :
    joint false minInt evs = joint false minInt' evs' := by
  rw [joint_eq_sum, joint_eq_sum, h]
  simp

/-- **Minimum intersection**: a pair sharing fewer stations than the configured minimum
    contributes nothing (log 1) -/
theorem pairTerm_below_min (minInt : Nat) (ei ej : Event ℝ)
    (h : (pairs ei.rel ej.rel).length < minInt) : pairTerm minInt ei ej = fin 0 := by
  simp [pairTerm, h]

/-- events with no common station contribute nothing whatever the minimum is -/
theorem pairTerm_no_shared (minInt : Nat) (ei ej : Event ℝ)
    (h : ∀ s ∈ ei.rel, ∀ t ∈ ej.rel, s.name ≠ t.name) : pairTerm minInt ei ej = fin 0 :=
  pairTerm_of_pairs_nil minInt ei ej (pairs_eq_nil_of_no_shared _ _ h)

theorem _root_.MTfitVerif.MultiEvent.joint_all_below_min {minInt : Nat} {evs : List (Event ℝ)}
    (h : ∀ ei ∈ evs, ∀ ej ∈ evs, (pairs ei.rel ej.rel).length < minInt) :
    joint true minInt evs = joint false minInt evs := by
  have hz : LogP.sum (pairTerms minInt evs) = fin 0 := by
    rw [pairTerms_eq]
    refine sum_eq_fin_zero fun x hx => ?_
    obtain ⟨ei, hei, ej, hej, rfl⟩ := mem_pairTermsAuxL hx
    exact pairTerm_below_min minInt ei ej (h ei hei ej (by simpa using hej))
  rw [joint_eq_sum, joint_eq_sum]
  simp [hz]

/-- if no pair reaches the minimum the relative inversion equals the independent one -/
theorem joint_all_below_min (minInt : Nat) (evs : List (Event ℝ))
    (h : ∀ ei ∈ evs, ∀ ej ∈ evs, (pairs ei.rel ej.rel).length < minInt) :
    toProb (joint true minInt evs) = toProb (joint false minInt evs) :=
  congrArg toProb (MultiEvent.joint_all_below_min h)

/-- every pair joins two observations of the same station, one from each event -/
theorem pairs_same_station (si sj : List (RelObs ℝ)) :
    ∀ p ∈ pairs si sj, p.1.name = p.2.name ∧ p.1 ∈ si ∧ p.2 ∈ sj := by
  induction si, sj using pairs.induct with
  | case1 sj => simp
  | case2 s si sj t rest he ih =>
    rw [pairs_cons_some he]
    intro p hp
    rcases List.mem_cons.1 hp with rfl | hp
    · exact ⟨(extract_some he).1.symm, by simp, extract_some_mem he⟩
    · obtain ⟨h1, h2, h3⟩ := ih p hp
      exact ⟨h1, by simp [h2], extract_some_rest_subset he _ h3⟩
  | case3 s si sj he ih =>
    rw [pairs_cons_none he]
    intro p hp
    obtain ⟨h1, h2, h3⟩ := ih p hp
    exact ⟨h1, by simp [h2], h3⟩

/-- with one observation per station in each event, the pairs are exactly the observations at
    common stations -/
theorem pairs_mem_iff (si sj : List (RelObs ℝ)) (hi : (si.map (·.name)).Nodup) (hj : (sj.map (·.name)).Nodup)
    (s t : RelObs ℝ) : (s, t) ∈ pairs si sj ↔ s ∈ si ∧ t ∈ sj ∧ s.name = t.name := by
  rw [pairs_eq_filterMap si sj hi, List.mem_filterMap]
  constructor
  · rintro ⟨s', hs', h⟩
    obtain ⟨t', ht', he⟩ := Option.map_eq_some_iff.1 h
    obtain ⟨rfl, rfl⟩ := Prod.mk.inj he
    obtain ⟨h1, h2⟩ := (find?_name_eq_some_iff hj).1 ht'
    exact ⟨hs', h1, h2.symm⟩
  · rintro ⟨hs, ht, hn⟩
    exact ⟨s, hs, by rw [partner, (find?_name_eq_some_iff hj).2 ⟨ht, hn.symm⟩]; rfl⟩

-- (`hj` is not needed by the proof)
set_option linter.unusedVariables false in
/-- the number of pairs is the number of stations of event `i` that event `j` also has.

    The hypothesis `hi` (event `i` lists every station once) is needed: with
    `si = [⟨1,[],1,1⟩, ⟨1,[],2,1⟩]` and `sj = [⟨1,[],10,1⟩]` (so `sj` has distinct names) only the
    first observation of `si` finds a partner, `(pairs si sj).length = 1`, while both observations
    of `si` pass the filter (length 2); see `pairs_length_counterexample`.  The hypothesis `hj` is
    not needed (`MultiEvent.pairs_length_of_nodup`). -/
theorem pairs_length (si sj : List (RelObs ℝ)) (hi : (si.map (·.name)).Nodup) (hj : (sj.map (·.name)).Nodup) :
    (pairs si sj).length = (si.filter fun s => sj.any fun t => t.name = s.name).length :=
  pairs_length_of_nodup si sj hi

/-- `pairs_length` with only `sj` duplicate-free fails -/
theorem pairs_length_counterexample :
    ∃ si sj : List (RelObs ℝ), (sj.map (·.name)).Nodup ∧
      (pairs si sj).length ≠ (si.filter fun s => sj.any fun t => t.name = s.name).length :=
  ⟨[⟨1, [], 1, 1⟩, ⟨1, [], 2, 1⟩], [⟨1, [], 10, 1⟩], by simp, by decide⟩

/-- the order in which the second event lists its stations is irrelevant -/
theorem pairs_perm_right (si sj sj' : List (RelObs ℝ)) (h : sj.Perm sj') (hj : (sj.map (·.name)).Nodup) :
    pairs si sj = pairs si sj' := by
  induction si, sj using pairs.induct generalizing sj' with
  | case1 sj => simp
  | case2 s si sj t rest he ih =>
    obtain ⟨rest', he', hp⟩ := extract_perm h hj he
    rw [pairs_cons_some he, pairs_cons_some he', ih _ hp (extract_some_nodup he hj).1]
  | case3 s si sj he ih =>
    rw [pairs_cons_none he, pairs_cons_none (extract_perm_none h he), ih _ h hj]

-- (`hj` is not needed by the proof)
set_option linter.unusedVariables false in
/-- reordering the first event's stations only reorders the pairs.

    The hypothesis `hi` (event `i` lists every station once) is needed: with
    `si = [⟨1,[],1,1⟩, ⟨1,[],2,1⟩]`, `si' = si.reverse` and `sj = [⟨1,[],10,1⟩]` the single
    observation of `sj` is paired with whichever observation of station 1 comes first, so
    `pairs si sj = [(⟨1,[],1,1⟩, _)]` and `pairs si' sj = [(⟨1,[],2,1⟩, _)]` are not permutations of
    each other; see `pairs_perm_left_counterexample`.  The hypothesis `hj` is not needed
    (`MultiEvent.pairs_perm_left_of_nodup`). -/
theorem pairs_perm_left (si si' sj : List (RelObs ℝ)) (h : si.Perm si') (hi : (si.map (·.name)).Nodup)
    (hj : (sj.map (·.name)).Nodup) :
    (pairs si sj).Perm (pairs si' sj) :=
  pairs_perm_left_of_nodup sj h hi

/-- `pairs_perm_left` with only `sj` duplicate-free fails -/
theorem pairs_perm_left_counterexample :
    ∃ si si' sj : List (RelObs ℝ), si.Perm si' ∧ (sj.map (·.name)).Nodup ∧
      ¬ (pairs si sj).Perm (pairs si' sj) := by
  refine ⟨[⟨1, [], 1, 1⟩, ⟨1, [], 2, 1⟩], [⟨1, [], 2, 1⟩, ⟨1, [], 1, 1⟩], [⟨1, [], 10, 1⟩],
    List.Perm.swap _ _ _, by simp, ?_⟩
  intro hp
  have h1 : pairs [⟨1, [], 1, 1⟩, ⟨1, [], 2, 1⟩] [(⟨1, [], 10, 1⟩ : RelObs ℝ)] =
      [(⟨1, [], 1, 1⟩, ⟨1, [], 10, 1⟩)] := rfl
  have h2 : pairs [⟨1, [], 2, 1⟩, ⟨1, [], 1, 1⟩] [(⟨1, [], 10, 1⟩ : RelObs ℝ)] =
      [(⟨1, [], 2, 1⟩, ⟨1, [], 10, 1⟩)] := rfl
  rw [h1, h2, List.perm_singleton] at hp
  simp at hp

/-- non-vacuity: two events listing stations 1,2,3 and 3,9,1 share stations 1 and 3, paired by name -/
example :
    (pairs [⟨1, [], 1, 1⟩, ⟨2, [], 2, 1⟩, ⟨3, [], 3, 1⟩] [⟨3, [], 30, 1⟩, ⟨9, [], 90, 1⟩, (⟨1, [], 10, 1⟩ : RelObs ℝ)]).map
      (fun p => (p.1.name, p.2.name)) = [(1, 1), (3, 3)] :=
  rfl

end MTfitVerif.C15
