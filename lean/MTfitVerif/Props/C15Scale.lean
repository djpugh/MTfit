import MTfitVerif.Real.LogPSem
import MTfitVerif.Real.ScaleLemmas
/-
  C15 — relative scale factor: inverse-variance combination, station-order independence,
  zero-noise limit.
-/
namespace MTfitVerif.C15
open MultiEvent LogP Filter Topology Scale

/-- **Inverse-variance weighting**: the combined estimate of any number of station estimates
    `(μᵢ, sᵢ)`, `sᵢ > 0`, is `Σ μᵢ/sᵢ² / Σ 1/sᵢ²` with standard deviation `1/√(Σ 1/sᵢ²)` -/
theorem combineMu_closed_form (xs : List (ℝ × ℝ)) (hne : xs ≠ []) (hpos : ∀ x ∈ xs, 0 < x.2) :
    combineMu xs = some ((xs.map fun x => x.1 / x.2 ^ 2).sum / (xs.map fun x => 1 / x.2 ^ 2).sum,
                         1 / Real.sqrt ((xs.map fun x => 1 / x.2 ^ 2).sum)) :=
  combineMu_eq xs hne hpos

/-- the combination does not depend on the order of the stations -/
theorem combineMu_perm (xs ys : List (ℝ × ℝ)) (h : xs.Perm ys) (hpos : ∀ x ∈ xs, 0 < x.2) :
    combineMu xs = combineMu ys := by
  by_cases hne : xs = []
  · subst hne; rw [List.nil_perm.mp h]
  · have hne' : ys ≠ [] := fun hy => hne (by subst hy; exact List.perm_nil.mp h)
    have hpos' : ∀ y ∈ ys, 0 < y.2 := fun y hy => hpos y (h.mem_iff.mpr hy)
    rw [combineMu_eq xs hne hpos, combineMu_eq ys hne' hpos', wSum_perm h, mSum_perm h]

/-- the combined estimate lies between the smallest and the largest station estimate, and its
    uncertainty is not larger than that of any station -/
theorem combineMu_between (xs : List (ℝ × ℝ)) (hpos : ∀ x ∈ xs, 0 < x.2) (lo hi : ℝ)
    (hlo : ∀ x ∈ xs, lo ≤ x.1) (hhi : ∀ x ∈ xs, x.1 ≤ hi) (m s : ℝ) (h : combineMu xs = some (m, s)) :
    lo ≤ m ∧ m ≤ hi ∧ 0 < s ∧ ∀ x ∈ xs, s ≤ x.2 := by
  have hne : xs ≠ [] := by rintro rfl; cases h
  have hI := combineMu_mem_Icc hne hpos (lo := lo) (hi := hi) fun x hx => ⟨hlo x hx, hhi x hx⟩
  rw [h] at hI
  rw [combineMu_eq xs hne hpos, Option.some.injEq, Prod.mk.injEq] at h
  obtain ⟨-, rfl⟩ := h
  have hW := wSum_pos hne hpos
  refine ⟨hI.1, hI.2, by positivity, fun x hx => ?_⟩
  -- `1/√W ≤ x.2` is `1 ≤ √(x.2² W)`, and `1/x.2² ≤ W`
  rw [div_le_iff₀ (Real.sqrt_pos.2 hW), ← Real.sqrt_sq (hpos x hx).le, ← Real.sqrt_mul (sq_nonneg _)]
  refine Real.one_le_sqrt.2 ?_
  have := wSum_ge_of_mem hx
  rwa [div_le_iff₀ (pow_pos (hpos x hx) 2), mul_comm] at this

theorem _root_.MTfitVerif.MultiEvent.relTerm_perm {ps ps' : List (RelObs ℝ × RelObs ℝ)} (m₁ m₂ : List ℝ)
    (h : ps.Perm ps') (hpos : ∀ v ∈ ps.map (pairVals m₁ m₂), 0 < (stationScale v.r v.μx v.μy v.ex v.ey).2) :
    relTerm ps m₁ m₂ = relTerm ps' m₁ m₂ := by
  have hvs : (ps.map (pairVals m₁ m₂)).Perm (ps'.map (pairVals m₁ m₂)) := h.map _
  unfold relTerm
  simp only []
  rw [← combineMu_perm _ _ (hvs.map _) (List.forall_mem_map.2 hpos), ← hvs.any_eq]
  rcases combineMu (α := ℝ) _ with _ | ⟨scale, unc⟩
  · rfl
  · simp only []
    split
    · rfl
    · rw [sum_perm (hvs.map _)]

/-- the relative-amplitude term of an event pair (log-likelihood, scale factor, uncertainty) does
    not depend on the order in which the shared stations are listed -/
theorem relTerm_perm (ps ps' : List (RelObs ℝ × RelObs ℝ)) (m₁ m₂ : List ℝ) (h : ps.Perm ps')
    (hpos : ∀ p ∈ ps, 0 < (let v := pairVals m₁ m₂ p; stationScale v.r v.μx v.μy v.ex v.ey).2) :
    (relTerm ps m₁ m₂).map (fun r => (toProb r.1, r.2.1, r.2.2)) =
      (relTerm ps' m₁ m₂).map (fun r => (toProb r.1, r.2.1, r.2.2)) :=
  congrArg _ (MultiEvent.relTerm_perm m₁ m₂ h (List.forall_mem_map.2 hpos))

/-- **Zero-noise limit of a station estimate**: for positive observed ratio and modelled
    amplitudes the estimated scale tends to `μy r / μx` as the fractional errors go to zero -/
theorem stationScale_zero_noise (r μx μy : ℝ) (hr : 0 < r) (hx : 0 < μx) (hy : 0 < μy) :
    Tendsto (fun e : ℝ => (stationScale r μx μy e e).1) (𝓝[>] 0) (𝓝 (μy * r / μx)) := by
  refine (coreMu_tendsto (μy * r / μx) 1 (scK r μx μy) (μy * r / μx)
    (Real.sqrt (2 / Real.pi) / scK r μx μy) (by positivity)).congr' ?_
  filter_upwards [self_mem_nhdsWithin] with e he
  rw [stationScale_core hx hy he, scC]

/-- if the observed ratio is `k` times the ratio of the modelled amplitudes, the limit is `k` -/
theorem stationScale_zero_noise_true_ratio (k μx μy : ℝ) (hk : 0 < k) (hx : 0 < μx) (hy : 0 < μy) :
    Tendsto (fun e : ℝ => (stationScale (k * μx / μy) μx μy e e).1) (𝓝[>] 0) (𝓝 k) := by
  have h := stationScale_zero_noise (k * μx / μy) μx μy (by positivity) hx hy
  have hk' : μy * (k * μx / μy) / μx = k := by field_simp
  rwa [hk'] at h

/-- the standard deviation of a station estimate is positive for all sufficiently small errors
    (its square is `e² (μy² r² + μx²)/μx² (1 + o(1))`) -/
theorem stationScale_sd_eventually_pos (r μx μy : ℝ) (hr : 0 < r) (hx : 0 < μx) (hy : 0 < μy) :
    ∀ᶠ e in 𝓝[>] (0 : ℝ), 0 < (stationScale r μx μy e e).2 := by
  have hK := scK_pos r μx μy hx
  have hsmall : ∀ᶠ e in 𝓝[>] (0 : ℝ), (μy * r / μx) ^ 2 * (e ^ 2 * scK r μx μy)
      < (μy * r / μx * (μy * r / μx) + 1) ^ 2 := by
    have := (tendsto_sq_mul_nhdsGT (scK r μx μy)).const_mul ((μy * r / μx) ^ 2)
    rw [mul_zero] at this
    exact this.eventually (gt_mem_nhds (by positivity))
  filter_upwards [self_mem_nhdsWithin, hsmall] with e he hs
  have he : 0 < e := he
  rw [stationScale_core hx hy he]
  exact Real.sqrt_pos.2 (coreVar_pos (by positivity) one_pos (scC_pos r μx μy hx he).le
    (by positivity) (by positivity) (by positivity) hs)

/-- **The combined scale factor converges to the true amplitude ratio**: for any non-empty list
    of stations `(μx, μy)` with positive modelled amplitudes whose observed ratios are all
    `k μx / μy`, the inverse-variance-weighted scale factor tends to `k` as the errors go to zero -/
theorem scale_converges (k : ℝ) (hk : 0 < k) (sts : List (ℝ × ℝ)) (hne : sts ≠ [])
    (hpos : ∀ s ∈ sts, 0 < s.1 ∧ 0 < s.2) :
    Tendsto (fun e : ℝ => ((combineMu (sts.map fun s => stationScale (k * s.1 / s.2) s.1 s.2 e e)).getD (0, 0)).1)
      (𝓝[>] 0) (𝓝 k) :=
  combineMu_tendsto hne (fun s e => stationScale (k * s.1 / s.2) s.1 s.2 e e)
    (fun s hs => stationScale_sd_eventually_pos _ _ _
      (div_pos (mul_pos hk (hpos s hs).1) (hpos s hs).2) (hpos s hs).1 (hpos s hs).2)
    (fun s hs => stationScale_zero_noise_true_ratio k s.1 s.2 hk (hpos s hs).1 (hpos s hs).2)

end MTfitVerif.C15
