import MTfitVerif.Props.C04Extra
import MTfitVerif.Real.SampleStoreLemmas
/-
  C09 — the sample store keeps each non-zero sample once, aligned, and counts every try.
  Helper lemmas live in `Real/SampleStoreLemmas.lean`, except the two that mention `Inv`
  (`SampleStore.refines_from`, `SampleStore.view_length`).
-/
namespace MTfitVerif.C09
open LogP LogDomain SampleStore

/-- representation invariant of the concrete store -/
def Inv (s : Store ℝ) : Prop :=
  0 < s.init ∧ s.i ≤ s.cols.length ∧ s.lnCols.length = s.i ∧ s.sf.length = s.i

theorem inv_empty {init : Nat} (h : 0 < init) : Inv (empty init : Store ℝ) :=
  ⟨h, Nat.zero_le _, rfl, rfl⟩

/-- the growth loop terminates with room for the batch (strictly more than `k` free slots),
    never shrinks, and leaves the capacity alone when there is already room -/
theorem growTo_spec (init i k cap : Nat) (hinit : 0 < init) (hi : i ≤ cap) :
    let cap' := growTo init i k (k + i + 2) cap
    cap ≤ cap' ∧ k < cap' - i ∧ (k < cap - i → cap' = cap) :=
  growTo_spec_of_fuel init i k hinit (k + i + 2) cap hi (by omega)

/-- refinement step: appending a batch appends exactly its non-zero candidates, in order, each
    with its own log-values and scale factor; earlier samples are untouched even when the
    storage grows; the tried count grows by the batch's count -/
theorem append_refines (s : Store ℝ) (hs : Inv s) (batch : List (Cand ℝ)) (nTried : Nat) :
    Inv (append s batch nTried) ∧
    view (append s batch nTried)
      = view s ++ (batch.filter nonzero).map (fun c => (c.tok, c.col, c.sf)) ∧
    (append s batch nTried).n = s.n + nTried := by
  obtain ⟨h0, h1, h2, h3⟩ := hs
  have c2 := append_cols s batch nTried h1
  refine ⟨⟨?_, ?_, ?_, ?_⟩, ?_, append_n s batch nTried⟩
  · rw [append_init]; exact h0
  · -- the array is long enough because its first `i + k` entries are `i + k` many
    have h : (s.cols.take s.i ++ (batch.filter nonzero).map (·.tok)).length
        = s.i + (batch.filter nonzero).length := by
      rw [List.length_append, List.length_take_of_le h1, List.length_map]
    rw [append_i, ← h, ← c2]
    exact List.length_take_le' _ _
  · rw [append_lnCols, append_i, List.length_append, List.length_map, h2]
  · rw [append_sf, append_i, List.length_append, List.length_map, h3]
  · unfold view
    rw [append_i, c2, append_lnCols, append_sf]
    rw [List.zip_append (by rw [h2, h3]), List.zip_append, List.zip_map', List.zip_map']
    rw [List.length_take_of_le h1, List.length_zip, h2, h3, Nat.min_self]

theorem _root_.MTfitVerif.SampleStore.refines_from {s : Store ℝ} (hs : Inv s) (hist : List (List (Cand ℝ) × Nat)) :
    Inv (hist.foldl (fun s b => append s b.1 b.2) s) ∧
    view (hist.foldl (fun s b => append s b.1 b.2) s)
      = view s ++ (hist.flatMap fun b => (b.1.filter nonzero).map fun c => (c.tok, c.col, c.sf)) ∧
    (hist.foldl (fun s b => append s b.1 b.2) s).n = s.n + (hist.map (·.2)).sum := by
  induction hist generalizing s with
  | nil => exact ⟨hs, (List.append_nil _).symm, rfl⟩
  | cons b bs ih =>
    obtain ⟨a, av, an⟩ := append_refines s hs b.1 b.2
    obtain ⟨hi, hv, hn⟩ := ih a
    refine ⟨hi, ?_, ?_⟩
    · rw [List.foldl_cons, hv, av, List.flatMap_cons, List.append_assoc]
    · rw [List.foldl_cons, hn, an, List.map_cons, List.sum_cons, Nat.add_assoc]

/-- every history: the store holds exactly the non-zero candidates of all batches, in order -/
theorem history_refines {init : Nat} (h : 0 < init) (hist : List (List (Cand ℝ) × Nat)) :
    let s := hist.foldl (fun s b => append s b.1 b.2) (empty init : Store ℝ)
    Inv s ∧
    view s = (hist.flatMap fun b => (b.1.filter nonzero).map fun c => (c.tok, c.col, c.sf)) ∧
    s.n = (hist.map (·.2)).sum := by
  obtain ⟨hi, hv, hn⟩ := refines_from (inv_empty h) hist
  refine ⟨hi, ?_, ?_⟩
  · rw [hv, view_empty, List.nil_append]
  · rw [hn]; exact Nat.zero_add _

theorem _root_.MTfitVerif.SampleStore.view_length {s : Store ℝ} (hs : Inv s) : (view s).length = s.i := by
  obtain ⟨-, h1, h2, h3⟩ := hs
  rw [view, List.length_zip, List.length_zip, List.length_take, h2, h3, Nat.min_self,
    Nat.min_eq_left h1, Nat.min_self]

/-- nothing is lost or duplicated: the number of stored samples is the number of non-zero
    candidates seen -/
theorem stored_count {init : Nat} (h : 0 < init) (hist : List (List (Cand ℝ) × Nat)) :
    (hist.foldl (fun s b => append s b.1 b.2) (empty init : Store ℝ)).i
      = (hist.map fun b => (b.1.filter nonzero).length).sum := by
  obtain ⟨hi, hv, -⟩ := history_refines h hist
  rw [← view_length hi, hv, List.length_flatMap]
  simp only [List.length_map]

/-- an all-zero history gives the explicit empty result -/
theorem all_zero_history_empty {init : Nat} (h : 0 < init) (hist : List (List (Cand ℝ) × Nat))
    (hz : ∀ b ∈ hist, ∀ c ∈ b.1, nonzero c = false) (discard nS : ℝ) :
    output (hist.foldl (fun s b => append s b.1 b.2) (empty init : Store ℝ)) discard nS = none := by
  obtain ⟨⟨-, -, hlen, -⟩, -⟩ := history_refines h hist
  apply output_of_nil
  apply List.eq_nil_of_length_eq_zero
  rw [hlen, stored_count h hist]
  exact List.sum_eq_zero (List.forall_mem_map.2 fun b hb =>
    List.length_eq_zero_iff.2 (filter_nonzero_eq_nil (hz b hb)))

/-- without discard the output probabilities are the stored values normalised to unit total -/
theorem output_normalised (s : Store ℝ) (hs : Inv s) (hne : s.lnCols ≠ [])
    (hfin : ∀ col ∈ s.lnCols, col.any isFin = true) (o : Output ℝ)
    (ho : output s 0 0 = some o) :
    o.probability.sum = 1 ∧ o.toks = s.cols.take s.i ∧ o.sf = s.sf ∧ o.lnPdf = marginals s := by
  obtain ⟨_, h1, h2, h3⟩ := hs
  have hmlen : (marginals s).length = s.i := (marginals_length s).trans h2
  have hm : marginals s ≠ [] := fun h => hne (List.map_eq_nil_iff.1 h)
  have hmfin := marginals_isFin s hfin
  have hnlen := (C04.lnNormalise_length (marginals s) (c 1)).trans hmlen
  -- every normalised marginal is finite, so without discard the mask keeps every index
  have hsel : ∀ {β : Type} (l : List β), l.length = s.i →
      selectBy l (keepIdx (lnNormalise (marginals s) (c 1 : ℝ)) 0 0) = l := fun l hl => by
    rw [keepIdx_no_discard]
    exact selectBy_eq_self l _ (by rw [hl, List.length_map, hnlen])
      (List.forall_mem_map.2 (lnNormalise_isFin _ _ hmfin))
  rw [output_of_ne s 0 0 hm, hsel _ (List.length_take_of_le h1), hsel _ hnlen, hsel _ hmlen,
    hsel _ h3, Option.some.injEq] at ho
  subst ho
  refine ⟨?_, rfl, rfl, rfl⟩
  show ((lnNormalise (marginals s) (c 1 : ℝ)).map expF).sum = 1
  rw [List.map_congr_left fun x _ => expF_eq x]
  obtain ⟨x, hx⟩ := List.exists_mem_of_ne_nil _ hm
  refine Eq.trans ?_ (C04.lnNormalise_sum_one (marginals s) (dV := (c 1 : ℝ))
    (Nat.cast_pos.mpr Nat.one_pos) ⟨x, hx, hmfin x hx⟩)
  rw [flt_c, Nat.cast_one, one_mul]

/-- the optional discard only removes samples below `1/(discard·n)` of the maximum, and keeps
    the others paired with their own tensors and values -/
theorem discard_only_below_threshold (ln : List (LogP ℝ)) {discard nS : ℝ} (hd : 0 < discard)
    (hn : 0 < nS) (m : ℝ) (hm : maxFin ln = some m) :
    keepIdx ln discard nS = ln.map (fun x => match x with
      | negInf => false
      | fin v => decide (m - Real.log (discard * nS) < v)) := by
  unfold keepIdx
  have hg : (Flt.ltb (c 0) nS && Flt.ltb (c 0) discard) = true := by simp [hd, hn]
  rw [if_pos hg, hm]
  apply List.map_congr_left
  intro x _
  cases x with
  | negInf => rfl
  | fin v => rfl

-- (the two length hypotheses are not needed: `SampleStore.selectBy_zip` has none)
set_option linter.unusedVariables false in
theorem selectBy_aligned {β γ : Type} (l₁ : List β) (l₂ : List γ) (keep : List Bool)
    (h₁ : l₁.length = keep.length) (h₂ : l₂.length = keep.length) :
    List.zip (selectBy l₁ keep) (selectBy l₂ keep) = selectBy (List.zip l₁ l₂) keep :=
  (selectBy_zip l₁ l₂ keep).symm

/-- sample-count-limited sampling stops at the first batch that reaches the limit -/
theorem runIteration_first (maxS n : Nat) (bs : List Nat) (k : Nat)
    (hk : runIteration maxS n bs = k + 1) (hlen : k < bs.length) :
    n + (bs.take (k + 1)).sum ≥ maxS ∨ k + 1 = bs.length := by
  by_cases h : k + 1 = bs.length
  · exact Or.inr h
  · refine Or.inl (Nat.le_of_not_lt fun hlt => ?_)
    have := (lt_runIteration_iff maxS n bs k (by omega)).mpr hlt
    omega

theorem runIteration_not_earlier (maxS n : Nat) (bs : List Nat) (j : Nat)
    (hj : j + 1 < runIteration maxS n bs) : n + (bs.take (j + 1)).sum < maxS :=
  (lt_runIteration_iff maxS n bs j
    (Nat.lt_of_lt_of_le hj (runIteration_le_length maxS n bs))).mp hj

end MTfitVerif.C09
