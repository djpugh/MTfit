import MTfitVerif.Model.StationAngles
import MTfitVerif.Real.AngleLemmas
/-
  C11 — station coefficients reproduce the P / SH / SV far-field radiation pattern.
-/
namespace MTfitVerif.C11
open StationAngles Real

theorem _root_.MTfitVerif.StationAngles.dot6 (a0 a1 a2 a3 a4 a5 b0 b1 b2 b3 b4 b5 : ℝ) :
    dot [a0, a1, a2, a3, a4, a5] [b0, b1, b2, b3, b4, b5]
      = a0 * b0 + a1 * b1 + a2 * b2 + a3 * b3 + a4 * b4 + a5 * b5 := by
  simp only [dot, flt_c, Nat.cast_zero]; ring

/-- ray direction `g`, and the transverse unit vectors `φ` (SH) and `θ` (SV); NED axes,
    take-off angle from the downward axis -/
noncomputable def gx (az toa : ℝ) : ℝ := Real.cos az * Real.sin toa
noncomputable def gy (az toa : ℝ) : ℝ := Real.sin az * Real.sin toa
noncomputable def gz (_az toa : ℝ) : ℝ := Real.cos toa
noncomputable def px (az : ℝ) : ℝ := -Real.sin az
noncomputable def py (az : ℝ) : ℝ := Real.cos az
noncomputable def tx (az toa : ℝ) : ℝ := Real.cos az * Real.cos toa
noncomputable def ty (az toa : ℝ) : ℝ := Real.sin az * Real.cos toa
noncomputable def tz (_az toa : ℝ) : ℝ := -Real.sin toa

/-- bilinear form `u · M · v` of the symmetric tensor with the given components -/
def bil (mxx myy mzz mxy mxz myz ux uy uz vx vy vz : ℝ) : ℝ :=
  ux * (mxx * vx + mxy * vy + mxz * vz) + uy * (mxy * vx + myy * vy + myz * vz)
    + uz * (mxz * vx + myz * vy + mzz * vz)

/-- P amplitude: `g · M · g` for every azimuth, take-off angle and symmetric tensor -/
theorem stationP_eq_gMg (az toa mxx myy mzz mxy mxz myz : ℝ) :
    dot (stationP az toa) (mt6 mxx myy mzz mxy mxz myz)
      = bil mxx myy mzz mxy mxz myz (gx az toa) (gy az toa) (gz az toa) (gx az toa) (gy az toa) (gz az toa) := by
  simp only [stationP, mt6, dot6, flt_sin, flt_cos, flt_sqrt, flt_c, Nat.cast_ofNat, bil, gx, gy, gz]
  linear_combination
    (Real.sin az * Real.cos az * Real.sin toa ^ 2 * mxy + Real.cos az * Real.cos toa * Real.sin toa * mxz
      + Real.sin az * Real.cos toa * Real.sin toa * myz) * Convert.sqrt2_mul_self

/-- SH amplitude: `φ · M · g` -/
theorem stationSH_eq_phiMg (az toa mxx myy mzz mxy mxz myz : ℝ) :
    dot (stationSH az toa) (mt6 mxx myy mzz mxy mxz myz)
      = bil mxx myy mzz mxy mxz myz (px az) (py az) 0 (gx az toa) (gy az toa) (gz az toa) := by
  simp only [stationSH, mt6, dot6, flt_sin, flt_cos, flt_sqrt, flt_c, Nat.cast_ofNat, Nat.cast_zero,
    Nat.cast_one, bil, gx, gy, gz, px, py, Real.cos_two_mul']
  linear_combination
    ((Real.cos az ^ 2 - Real.sin az ^ 2) * Real.sin toa * mxy - Real.sin az * Real.cos toa * mxz
      + Real.cos az * Real.cos toa * myz) * Convert.one_div_sqrt2_mul_sqrt2

/-- SV amplitude: `θ · M · g` -/
theorem stationSV_eq_thetaMg (az toa mxx myy mzz mxy mxz myz : ℝ) :
    dot (stationSV az toa) (mt6 mxx myy mzz mxy mxz myz)
      = bil mxx myy mzz mxy mxz myz (tx az toa) (ty az toa) (tz az toa) (gx az toa) (gy az toa) (gz az toa) := by
  simp only [stationSV, mt6, dot6, flt_sin, flt_cos, flt_sqrt, flt_c, Nat.cast_ofNat, Nat.cast_one,
    bil, gx, gy, gz, tx, ty, tz, Real.cos_two_mul']
  linear_combination
    (Real.cos az * Real.sin az * Real.sin toa * Real.cos toa * mxy) * Convert.sqrt2_mul_self
    + (Real.cos az * (Real.cos toa ^ 2 - Real.sin toa ^ 2) * mxz
      + Real.sin az * (Real.cos toa ^ 2 - Real.sin toa ^ 2) * myz) * Convert.one_div_sqrt2_mul_sqrt2

/-- `g, φ, θ` are an orthonormal triad (so the three amplitudes are the radiation in the ray frame) -/
theorem triad_orthonormal (az toa : ℝ) :
    gx az toa ^ 2 + gy az toa ^ 2 + gz az toa ^ 2 = 1 ∧ px az ^ 2 + py az ^ 2 = 1 ∧
    tx az toa ^ 2 + ty az toa ^ 2 + tz az toa ^ 2 = 1 ∧
    gx az toa * px az + gy az toa * py az = 0 ∧
    gx az toa * tx az toa + gy az toa * ty az toa + gz az toa * tz az toa = 0 ∧
    px az * tx az toa + py az * ty az toa = 0 := by
  simp only [gx, gy, gz, px, py, tx, ty, tz]
  have ha := Real.sin_sq_add_cos_sq az
  have ht := Real.sin_sq_add_cos_sq toa
  refine ⟨?_, ?_, ?_, ?_, ?_, ?_⟩
  · linear_combination (Real.sin toa ^ 2) * ha + ht
  · linear_combination ha
  · linear_combination (Real.cos toa ^ 2) * ha + ht
  · ring
  · linear_combination (Real.sin toa * Real.cos toa) * ha
  · ring

/-- components of `R M Rᵀ` for a rotation `R` by `ψ` about the vertical axis -/
noncomputable def rotXX (ψ mxx myy mxy : ℝ) : ℝ :=
  Real.cos ψ ^ 2 * mxx - 2 * Real.sin ψ * Real.cos ψ * mxy + Real.sin ψ ^ 2 * myy
noncomputable def rotYY (ψ mxx myy mxy : ℝ) : ℝ :=
  Real.sin ψ ^ 2 * mxx + 2 * Real.sin ψ * Real.cos ψ * mxy + Real.cos ψ ^ 2 * myy
noncomputable def rotXY (ψ mxx myy mxy : ℝ) : ℝ :=
  Real.sin ψ * Real.cos ψ * (mxx - myy) + (Real.cos ψ ^ 2 - Real.sin ψ ^ 2) * mxy
noncomputable def rotXZ (ψ mxz myz : ℝ) : ℝ := Real.cos ψ * mxz - Real.sin ψ * myz
noncomputable def rotYZ (ψ mxz myz : ℝ) : ℝ := Real.sin ψ * mxz + Real.cos ψ * myz

/-- advancing the azimuth by `ψ` turns the horizontal parts of `g`, `φ`, `θ` by `ψ` -/
theorem _root_.MTfitVerif.StationAngles.frame_add (az ψ toa : ℝ) :
    gx (az + ψ) toa = cos ψ * gx az toa - sin ψ * gy az toa ∧
    gy (az + ψ) toa = sin ψ * gx az toa + cos ψ * gy az toa ∧
    px (az + ψ) = cos ψ * px az - sin ψ * py az ∧ py (az + ψ) = sin ψ * px az + cos ψ * py az ∧
    tx (az + ψ) toa = cos ψ * tx az toa - sin ψ * ty az toa ∧
    ty (az + ψ) toa = sin ψ * tx az toa + cos ψ * ty az toa := by
  simp only [gx, gy, px, py, tx, ty, cos_add, sin_add]
  refine ⟨?_, ?_, ?_, ?_, ?_, ?_⟩ <;> ring

/-- `(Ru)·(R M Rᵀ)(Rv) = u·M v` for the rotation `R` by `ψ` about the vertical -/
theorem _root_.MTfitVerif.StationAngles.bil_rot (ψ mxx myy mzz mxy mxz myz ux uy uz vx vy vz : ℝ) :
    bil (rotXX ψ mxx myy mxy) (rotYY ψ mxx myy mxy) mzz (rotXY ψ mxx myy mxy) (rotXZ ψ mxz myz)
        (rotYZ ψ mxz myz) (cos ψ * ux - sin ψ * uy) (sin ψ * ux + cos ψ * uy) uz
        (cos ψ * vx - sin ψ * vy) (sin ψ * vx + cos ψ * vy) vz
      = bil mxx myy mzz mxy mxz myz ux uy uz vx vy vz := by
  simp only [bil, rotXX, rotYY, rotXY, rotXZ, rotYZ]
  linear_combination
    ((ux * (mxx * vx + mxy * vy + mxz * vz) + uy * (mxy * vx + myy * vy + myz * vz))
      + (vx * (mxx * ux + mxy * uy + mxz * uz) + vy * (mxy * ux + myy * uy + myz * uz))
      + (sin ψ ^ 2 + cos ψ ^ 2 - 1) * (ux * (mxx * vx + mxy * vy) + uy * (mxy * vx + myy * vy)))
      * sin_sq_add_cos_sq ψ

/-- rotating source and stations together about the vertical leaves every amplitude unchanged -/
theorem rotation_invariance (ph : Phase) (ψ az toa mxx myy mzz mxy mxz myz : ℝ) :
    dot (coeffs ph (az + ψ) toa)
        (mt6 (rotXX ψ mxx myy mxy) (rotYY ψ mxx myy mxy) mzz (rotXY ψ mxx myy mxy)
             (rotXZ ψ mxz myz) (rotYZ ψ mxz myz))
      = dot (coeffs ph az toa) (mt6 mxx myy mzz mxy mxz myz) := by
  obtain ⟨h1, h2, h3, h4, h5, h6⟩ := frame_add az ψ toa
  cases ph
  · rw [coeffs, coeffs, stationP_eq_gMg, stationP_eq_gMg, h1, h2]; exact bil_rot ..
  · rw [coeffs, coeffs, stationSH_eq_phiMg, stationSH_eq_phiMg, h1, h2, h3, h4]; exact bil_rot ..
  · rw [coeffs, coeffs, stationSV_eq_thetaMg, stationSV_eq_thetaMg, h1, h2, h5, h6]; exact bil_rot ..

/-- degrees are converted by `x·π/180` before the trigonometric functions -/
theorem coeffsDeg_eq (ph : Phase) (az toa : ℝ) :
    coeffsDeg ph az toa = coeffs ph (az * Real.pi / 180) (toa * Real.pi / 180) := by
  simp only [coeffsDeg, deg2rad, flt_pi, flt_c, Nat.cast_ofNat]

/-- the `Q` suffix (quality-factor corrected phases) does not change the coefficients -/
theorem parsePhase_examples :
    parsePhase "P" = some .P ∧ parsePhase "PQ" = some .P ∧ parsePhase "sh" = some .SH ∧
    parsePhase "SHQ" = some .SH ∧ parsePhase "SV" = some .SV ∧ parsePhase "svq" = some .SV ∧
    parsePhase "S" = none := by
  decide +kernel

end MTfitVerif.C11

