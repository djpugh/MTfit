import MTfitVerif.Real.PyxRelativeLemmas
import MTfitVerif.Props.C20
/-
  C20 — the translated loops of the compiled relative-amplitude kernels (`scale_estimator`,
  `relative_amplitude_ratio_ln_pdf` of cprobability.pyx; `Id.run do` blocks of `Model/PyxKernels.lean`) compute, for every
  scalar type, the per-station scale estimates folded with `combine_mu` / `combine_s` — over the reals `MultiEvent.combineMu`
  of the list of per-station estimates, the model of the Python path used by C15 — and the `ln_P` cells
  `log ar_pdf(x[u]/y[u], mu[v,w]·mux[u], muy[u], psx[u], psy[u])` (or `-inf` when `s[v,w]` is NaN).

  The size parameters of the kernels are named after what the code copies them into: `umax = a_s0` (stations),
  `vmax = a_s1` (location samples), `kmax = a_s2` (components), `wmax = mt1_s1` (tensors).

  `C20.combine_eq` does not hold for every scalar type: the kernel computes `(m₁·s₂)·s₂`, the model of the Python path
  `m₁·(s₂·s₂)`, and multiplication of floats is not associative (at `Float`, `m₁ = 0.84`, `m₂ = 0.2`, `s₁ = 0.3`, `s₂ = 0.7`
  give different first components).  So the statements for every scalar type are in terms of the kernels' own `combine_mu`,
  `combine_s`, and the link to `MultiEvent.combineMu` is stated over the reals.
-/
namespace MTfitVerif.C20
open MTfitVerif.PyxSpec MTfitVerif.PyxLoop MTfitVerif.PyxRel
variable {α : Type} [Add α] [Sub α] [Mul α] [Div α] [Neg α] [Flt α]

/-- scale estimate `(μ, σ)` of station `u` for location sample `v` and tensor pair `w`: `estimate_scale_mu_s` of the observed
    amplitudes `x[u]`, `y[u]`, the modelled amplitudes `Σ_k a1[u,v,k]·mt1[k,w]`, `Σ_k a2[u,v,k]·mt2[k,w]` and the fractional
    errors `psx[u]`, `psy[u]` (the last two arguments of `estimate_scale_mu_s` are C output pointers and are not read).
    `vmax1`, `vmax2` are the second dimensions of `a1`, `a2`, `kmax` their common third dimension, `wmax1`, `wmax2` the second
    dimensions of `mt1`, `mt2`. -/
def stationEst (x y mt1 mt2 a1 a2 psx psy : Array α) (vmax1 vmax2 kmax wmax1 wmax2 v w u : Nat) : α × α :=
  Pyx.cprobability.estimate_scale_mu_s (x.getD u (c 0)) (y.getD u (c 0)) (amp a1 mt1 vmax1 kmax wmax1 u v w)
    (amp a2 mt2 vmax2 kmax wmax2 u v w) (psx.getD u (c 0)) (psy.getD u (c 0)) (c 0) (c 0)

/-- value written to `ln_P[u, v, w]` given the combined scale estimate `est = (μ, σ)` of cell `[v, w]`: `-inf` when `σ` is NaN
    (`σ == σ` fails), otherwise `log ar_pdf(x[u]/y[u], μ·Σ_k a1[u,v,k]·mt1[k,w], Σ_k a2[u,v,k]·mt2[k,w], psx[u], psy[u])` -/
def relLnP (x y mt1 mt2 a1 a2 psx psy : Array α) (vmax1 vmax2 kmax wmax1 wmax2 : Nat) (est : α × α) (u v w : Nat) : α :=
  if (!(Flt.eqb est.2 est.2)) = true then negInf
  else Flt.log (Pyx.cprobability.ar_pdf (x.getD u (c 0) / y.getD u (c 0)) (est.1 * amp a1 mt1 vmax1 kmax wmax1 u v w)
    (amp a2 mt2 vmax2 kmax wmax2 u v w) (psx.getD u (c 0)) (psy.getD u (c 0)))

/-! ### `scale_estimator` -/

/-- both results of `scale_estimator` (at least one station): every cell `[v, w]` of the zero-initialised `vmax × wmax` arrays
    overwritten, in the code's order, with the combined estimate `PyxRel.cellFold` of the per-station estimates -/
theorem scale_estimator_eq (x y mt1 mt2 a psx psy : Array α) (x_s0 y_s0 mt1_s0 wmax mt2_s0 mt2_s1 umax vmax kmax psx_s0 psy_s0 : Nat)
    (hu : 1 ≤ umax) :
    Pyx.cprobability.scale_estimator x x_s0 y y_s0 mt1 mt1_s0 wmax mt2 mt2_s0 mt2_s1 a umax vmax kmax psx psx_s0 psy psy_s0
      = (fillVW (fun v w => (cellFold (stationEst x y mt1 mt2 a a psx psy vmax vmax kmax wmax mt2_s1 v w) umax).1) vmax wmax
            (Array.replicate (vmax * wmax) (c 0)),
         fillVW (fun v w => (cellFold (stationEst x y mt1 mt2 a a psx psy vmax vmax kmax wmax mt2_s1 v w) umax).2) vmax wmax
            (Array.replicate (vmax * wmax) (c 0))) := by
  unfold Pyx.cprobability.scale_estimator
  simp only [forIn_range_yield, bind_pure_comp, map_pure, Id.run_pure, ite_pure_yield, kloop2, amp_fold_nested]
  refine (foldl_sim _ _ (fun σ : Array α × Array α × Array α × Array α × _ => (σ.1, σ.2.1)) _ (Sizes umax vmax wmax) ?_ _ ?_).1.trans
    (fillVW_pair _ _ vmax wmax _ _)
  · intro σ v hv hσ
    refine foldl_sim _ _ (fun σ : Array α × Array α × Array α × Array α × _ => (σ.1, σ.2.1)) _ (Sizes umax vmax wmax) ?_ _ hσ
    intro τ w hw hτ
    generalize hU : List.foldl _ _ (List.range umax) = U
    have H := station_fold hU (v * wmax + w) (stationEst x y mt1 mt2 a a psx psy vmax vmax kmax wmax mt2_s1 v w)
      (fun u => amp a mt1 vmax kmax wmax u v w) (fun u => amp a mt2 vmax kmax mt2_s1 u v w)
      hτ (cell_lt (List.mem_range.mp hv) (List.mem_range.mp hw)) hu ?_
    · exact ⟨Prod.ext H.1.1 H.1.2.1, H.2⟩
    · intro S u hu hX hY
      rw [getD_setIfInBounds_self hX, getD_setIfInBounds_self hY]
      exact ⟨_, rfl⟩
  · exact ⟨Array.size_replicate, Array.size_replicate, Array.size_replicate.ge, Array.size_replicate.ge⟩

/-- for `v < vmax`, `w < wmax` and at least one station, cell `[v, w]` of the two results of `scale_estimator` is
    the pair obtained by folding `(μ, σ), (μᵤ, σᵤ) ↦ (combine_mu μ μᵤ σ σᵤ, combine_s σ σᵤ)` over the estimates of stations
    `1, …, umax - 1`, starting from the estimate of station 0. -/
theorem scale_estimator_cell (x y mt1 mt2 a psx psy : Array α)
    (x_s0 y_s0 mt1_s0 wmax mt2_s0 mt2_s1 umax vmax kmax psx_s0 psy_s0 : Nat) {v w : Nat} (hv : v < vmax) (hw : w < wmax)
    (hu : 1 ≤ umax) :
    ((Pyx.cprobability.scale_estimator x x_s0 y y_s0 mt1 mt1_s0 wmax mt2 mt2_s0 mt2_s1 a umax vmax kmax psx psx_s0 psy
        psy_s0).1.getD (v * wmax + w) (c 0),
     (Pyx.cprobability.scale_estimator x x_s0 y y_s0 mt1 mt1_s0 wmax mt2 mt2_s0 mt2_s1 a umax vmax kmax psx psx_s0 psy
        psy_s0).2.getD (v * wmax + w) (c 0))
      = ((List.range' 1 (umax - 1)).map (stationEst x y mt1 mt2 a a psx psy vmax vmax kmax wmax mt2_s1 v w)).foldl
          (fun acc st => (Pyx.cprobability.combine_mu acc.1 st.1 acc.2 st.2, Pyx.cprobability.combine_s acc.2 st.2))
          (stationEst x y mt1 mt2 a a psx psy vmax vmax kmax wmax mt2_s1 v w 0) := by
  rw [scale_estimator_eq (hu := hu)]
  dsimp only
  rw [getD_fillVW _ vmax wmax _ (c 0) Array.size_replicate.ge hv hw,
    getD_fillVW _ vmax wmax _ (c 0) Array.size_replicate.ge hv hw]
  rfl

/-! ### the link to `MultiEvent.combineMu` (the model of the Python path, C15), over the reals -/

/-- over the reals the fold of `combine_mu` / `combine_s` over the stations is `MultiEvent.combineMu` -/
theorem cellFold_eq_combineMu (est : Nat → ℝ × ℝ) (umax : Nat) (hu : 1 ≤ umax) :
    MultiEvent.combineMu ((List.range umax).map est) = some (cellFold est umax) := by
  obtain ⟨n, rfl⟩ : ∃ n, umax = n + 1 := ⟨umax - 1, by omega⟩
  have hK : (combK : ℝ × ℝ → ℝ × ℝ → ℝ × ℝ) = MultiEvent.combineStep := by
    funext acc st
    exact combine_eq acc.1 st.1 acc.2 st.2
  rw [List.range_eq_range', List.range'_succ, List.map_cons]
  simp only [MultiEvent.combineMu, cellFold, hK, Nat.add_sub_cancel, Nat.zero_add]

/-- corollary over the reals: cell `[v, w]` of the results of `scale_estimator` is `MultiEvent.combineMu` of the list
    of the per-station estimates -/
theorem scale_estimator_cell_combineMu (x y mt1 mt2 a psx psy : Array ℝ)
    (x_s0 y_s0 mt1_s0 wmax mt2_s0 mt2_s1 umax vmax kmax psx_s0 psy_s0 : Nat) {v w : Nat} (hv : v < vmax) (hw : w < wmax)
    (hu : 1 ≤ umax) :
    MultiEvent.combineMu ((List.range umax).map (stationEst x y mt1 mt2 a a psx psy vmax vmax kmax wmax mt2_s1 v w))
      = some
        ((Pyx.cprobability.scale_estimator x x_s0 y y_s0 mt1 mt1_s0 wmax mt2 mt2_s0 mt2_s1 a umax vmax kmax psx psx_s0 psy
            psy_s0).1.getD (v * wmax + w) (c 0),
         (Pyx.cprobability.scale_estimator x x_s0 y y_s0 mt1 mt1_s0 wmax mt2 mt2_s0 mt2_s1 a umax vmax kmax psx psx_s0 psy
            psy_s0).2.getD (v * wmax + w) (c 0)) := by
  rw [scale_estimator_cell x y mt1 mt2 a psx psy x_s0 y_s0 mt1_s0 wmax mt2_s0 mt2_s1 umax vmax kmax psx_s0 psy_s0 hv hw hu]
  exact cellFold_eq_combineMu _ umax hu

-- (the five hypotheses `hx` … `hxy` are not needed by the proof: `PyxLemmas.estimate_scale_mu_s_eq` has none)
set_option linter.unusedVariables false in
/-- over the reals, when no modelled amplitude or observed ratio vanishes and the errors are positive: cell `[v, w]` of the results
    of `scale_estimator` is `MultiEvent.combineMu` of the list of `MultiEvent.stationScale` values, the per-station estimates of
    the Python path (`C20.estimate_scale_eq`) -/
theorem scale_estimator_cell_stationScale (x y mt1 mt2 a psx psy : Array ℝ)
    (x_s0 y_s0 mt1_s0 wmax mt2_s0 mt2_s1 umax vmax kmax psx_s0 psy_s0 : Nat) {v w : Nat} (hv : v < vmax) (hw : w < wmax)
    (hu : 1 ≤ umax)
    (hx : ∀ u, u < umax → amp a mt1 vmax kmax wmax u v w ≠ 0) (hy : ∀ u, u < umax → amp a mt2 vmax kmax mt2_s1 u v w ≠ 0)
    (hpx : ∀ u, u < umax → 0 < psx.getD u (c 0)) (hpy : ∀ u, u < umax → 0 < psy.getD u (c 0))
    (hxy : ∀ u, u < umax → x.getD u (c 0) / y.getD u (c 0) ≠ 0) :
    MultiEvent.combineMu ((List.range umax).map fun u =>
        MultiEvent.stationScale |x.getD u (c 0) / y.getD u (c 0)| |amp a mt1 vmax kmax wmax u v w|
          |amp a mt2 vmax kmax mt2_s1 u v w| (psx.getD u (c 0)) (psy.getD u (c 0)))
      = some
        ((Pyx.cprobability.scale_estimator x x_s0 y y_s0 mt1 mt1_s0 wmax mt2 mt2_s0 mt2_s1 a umax vmax kmax psx psx_s0 psy
            psy_s0).1.getD (v * wmax + w) (c 0),
         (Pyx.cprobability.scale_estimator x x_s0 y y_s0 mt1 mt1_s0 wmax mt2 mt2_s0 mt2_s1 a umax vmax kmax psx psx_s0 psy
            psy_s0).2.getD (v * wmax + w) (c 0)) := by
  rw [← scale_estimator_cell_combineMu x y mt1 mt2 a psx psy x_s0 y_s0 mt1_s0 wmax mt2_s0 mt2_s1 umax vmax kmax psx_s0 psy_s0
    hv hw hu]
  exact congrArg _ (List.map_congr_left fun u _ => (PyxLemmas.estimate_scale_mu_s_eq _ _ _ _ _ _ _ _).symm)

/-! ### `relative_amplitude_ratio_ln_pdf` -/

/-- the three results of `relative_amplitude_ratio_ln_pdf` (at least one station; `a1`, `a2` with the same number `kmax` of
    components): `mu`, `s` as for `scale_estimator`, and every cell `[u, v, w]` of the zero-initialised `ln_P` overwritten with
    `relLnP` of the combined estimate of cell `[v, w]` -/
theorem relative_amplitude_ratio_ln_pdf_eq (x y mt1 mt2 a1 a2 psx psy : Array α) (x_s0 y_s0 mt1_s0 wmax mt2_s0 mt2_s1 umax vmax kmax a2_s0 a2_s1 psx_s0 psy_s0 : Nat)
    (hu : 1 ≤ umax) :
    Pyx.cprobability.relative_amplitude_ratio_ln_pdf x x_s0 y y_s0 mt1 mt1_s0 wmax mt2 mt2_s0 mt2_s1 a1 umax vmax kmax a2 a2_s0 a2_s1 kmax psx psx_s0 psy psy_s0
      = (fillUVW (fun u v w => relLnP x y mt1 mt2 a1 a2 psx psy vmax a2_s1 kmax wmax mt2_s1
            (cellFold (stationEst x y mt1 mt2 a1 a2 psx psy vmax a2_s1 kmax wmax mt2_s1 v w) umax) u v w) umax vmax wmax
            (Array.replicate (umax * vmax * wmax) (c 0)),
         fillVW (fun v w => (cellFold (stationEst x y mt1 mt2 a1 a2 psx psy vmax a2_s1 kmax wmax mt2_s1 v w) umax).1) vmax wmax
            (Array.replicate (vmax * wmax) (c 0)),
         fillVW (fun v w => (cellFold (stationEst x y mt1 mt2 a1 a2 psx psy vmax a2_s1 kmax wmax mt2_s1 v w) umax).2) vmax wmax
            (Array.replicate (vmax * wmax) (c 0))) := by
  unfold Pyx.cprobability.relative_amplitude_ratio_ln_pdf
  simp only [forIn_range_yield, bind_pure_comp, map_pure, Id.run_pure, ite_pure_yield, kloop2, amp_fold_nested]
  refine (foldl_sim _ _ (fun σ : Array α × Array α × Array α × Array α × Array α × _ => (σ.1, σ.2.1, σ.2.2.1)) _
    (fun σ => Sizes umax vmax wmax σ.2) ?_ _ ?_).1.trans (fill_triple _ _ _ umax vmax wmax _ _ _)
  · intro σ v hv hσ
    refine foldl_sim _ _ (fun σ : Array α × Array α × Array α × Array α × Array α × _ => (σ.1, σ.2.1, σ.2.2.1)) _
      (fun σ => Sizes umax vmax wmax σ.2) ?_ _ hσ
    intro τ w hw hτ
    have hi := cell_lt (List.mem_range.mp hv) (List.mem_range.mp hw)
    generalize hU : List.foldl _ ((τ.2.1, _) : Array α × Array α × Array α × Array α × Nat × Nat × α × α) (List.range umax) = U
    have H := station_fold hU (v * wmax + w) (stationEst x y mt1 mt2 a1 a2 psx psy vmax a2_s1 kmax wmax mt2_s1 v w)
      (fun u => amp a1 mt1 vmax kmax wmax u v w) (fun u => amp a2 mt2 a2_s1 kmax mt2_s1 u v w) hτ hi hu ?_
    · dsimp only at H ⊢
      refine ⟨?_, H.2⟩
      rw [← H.1.1, ← H.1.2.1]
      refine congrArg (·, U.1, U.2.1)
        (foldl_sim (List.range umax) _ Prod.fst _ (fun _ => True) (fun s u hu' _ => ⟨?_, trivial⟩) _ trivial).1
      rw [H.1.1, H.1.2.1, getD_setIfInBounds_self (hτ.2.1 ▸ hi), getD_setIfInBounds_self (hτ.1 ▸ hi),
        (H.1.2.2 u (List.mem_range.mp hu')).1, (H.1.2.2 u (List.mem_range.mp hu')).2]
      exact fst_ite_set _ _ _ _ _ _ _
    · intro S u hu hX hY
      rw [getD_setIfInBounds_self hX, getD_setIfInBounds_self hY]
      exact ⟨_, rfl⟩
  · exact ⟨Array.size_replicate, Array.size_replicate, Array.size_replicate.ge, Array.size_replicate.ge⟩

/-- `mu` and `s`: for `v < vmax`, `w < wmax` and at least one station, cell `[v, w]` of the `mu`, `s` results of
    `relative_amplitude_ratio_ln_pdf` is the fold of `combine_mu` / `combine_s` over the per-station estimates, as for
    `scale_estimator` but with the two coefficient arrays `a1`, `a2` (which must have the same third dimension, `hk`; the code
    takes the loop bound from `a1` and the stride from `a2`). -/
theorem relative_amplitude_ratio_scale_cell (x y mt1 mt2 a1 a2 psx psy : Array α)
    (x_s0 y_s0 mt1_s0 wmax mt2_s0 mt2_s1 umax vmax kmax a2_s0 a2_s1 a2_s2 psx_s0 psy_s0 : Nat) (hk : a2_s2 = kmax)
    {v w : Nat} (hv : v < vmax) (hw : w < wmax) (hu : 1 ≤ umax) :
    ((Pyx.cprobability.relative_amplitude_ratio_ln_pdf x x_s0 y y_s0 mt1 mt1_s0 wmax mt2 mt2_s0 mt2_s1 a1 umax vmax kmax
        a2 a2_s0 a2_s1 a2_s2 psx psx_s0 psy psy_s0).2.1.getD (v * wmax + w) (c 0),
     (Pyx.cprobability.relative_amplitude_ratio_ln_pdf x x_s0 y y_s0 mt1 mt1_s0 wmax mt2 mt2_s0 mt2_s1 a1 umax vmax kmax
        a2 a2_s0 a2_s1 a2_s2 psx psx_s0 psy psy_s0).2.2.getD (v * wmax + w) (c 0))
      = ((List.range' 1 (umax - 1)).map (stationEst x y mt1 mt2 a1 a2 psx psy vmax a2_s1 kmax wmax mt2_s1 v w)).foldl
          (fun acc st => (Pyx.cprobability.combine_mu acc.1 st.1 acc.2 st.2, Pyx.cprobability.combine_s acc.2 st.2))
          (stationEst x y mt1 mt2 a1 a2 psx psy vmax a2_s1 kmax wmax mt2_s1 v w 0) := by
  subst hk
  rw [relative_amplitude_ratio_ln_pdf_eq (hu := hu)]
  dsimp only
  rw [getD_fillVW _ vmax wmax _ (c 0) Array.size_replicate.ge hv hw,
    getD_fillVW _ vmax wmax _ (c 0) Array.size_replicate.ge hv hw]
  rfl

/-- `ln_P`: for `u < umax`, `v < vmax`, `w < wmax`, with `(μ, σ)` the cell `[v, w]` of the `mu`, `s` results (the fold of
    `combine_mu` / `combine_s` over the per-station estimates), cell `[u, v, w]` of `ln_P` is `-inf` when `σ` is NaN and
    `log ar_pdf(x[u]/y[u], μ·Σ_k a1[u,v,k]·mt1[k,w], Σ_k a2[u,v,k]·mt2[k,w], psx[u], psy[u])` otherwise. -/
theorem relative_amplitude_ratio_ln_pdf_cells (x y mt1 mt2 a1 a2 psx psy : Array α)
    (x_s0 y_s0 mt1_s0 wmax mt2_s0 mt2_s1 umax vmax kmax a2_s0 a2_s1 a2_s2 psx_s0 psy_s0 : Nat) (hk : a2_s2 = kmax)
    {u v w : Nat} (hu : u < umax) (hv : v < vmax) (hw : w < wmax) :
    let r := Pyx.cprobability.relative_amplitude_ratio_ln_pdf x x_s0 y y_s0 mt1 mt1_s0 wmax mt2 mt2_s0 mt2_s1 a1 umax vmax
      kmax a2 a2_s0 a2_s1 a2_s2 psx psx_s0 psy psy_s0
    let μ := r.2.1.getD (v * wmax + w) (c 0)
    let σ := r.2.2.getD (v * wmax + w) (c 0)
    (μ, σ) = ((List.range' 1 (umax - 1)).map (stationEst x y mt1 mt2 a1 a2 psx psy vmax a2_s1 kmax wmax mt2_s1 v w)).foldl
          (fun acc st => (Pyx.cprobability.combine_mu acc.1 st.1 acc.2 st.2, Pyx.cprobability.combine_s acc.2 st.2))
          (stationEst x y mt1 mt2 a1 a2 psx psy vmax a2_s1 kmax wmax mt2_s1 v w 0) ∧
    r.1.getD ((u * vmax + v) * wmax + w) (c 0)
      = if (!(Flt.eqb σ σ)) = true then negInf
        else Flt.log (Pyx.cprobability.ar_pdf (x.getD u (c 0) / y.getD u (c 0)) (μ * amp a1 mt1 vmax kmax wmax u v w)
          (amp a2 mt2 a2_s1 kmax mt2_s1 u v w) (psx.getD u (c 0)) (psy.getD u (c 0))) := by
  have hu1 : 1 ≤ umax := Nat.succ_le_of_lt (Nat.lt_of_le_of_lt (Nat.zero_le u) hu)
  have hcell := relative_amplitude_ratio_scale_cell x y mt1 mt2 a1 a2 psx psy x_s0 y_s0 mt1_s0 wmax mt2_s0 mt2_s1 umax vmax
    kmax a2_s0 a2_s1 a2_s2 psx_s0 psy_s0 hk hv hw hu1
  refine ⟨hcell, ?_⟩
  subst hk
  have hμ := congrArg Prod.fst hcell
  have hσ := congrArg Prod.snd hcell
  dsimp only at hμ hσ ⊢
  rw [hμ, hσ, relative_amplitude_ratio_ln_pdf_eq (hu := hu1)]
  dsimp only
  rw [getD_fillUVW _ umax vmax wmax _ (c 0) Array.size_replicate.ge hu hv hw]
  rfl

/-- over the reals: cell `[v, w]` of the `mu`, `s` results is `MultiEvent.combineMu` of the list of per-station estimates -/
theorem relative_amplitude_ratio_scale_cell_combineMu (x y mt1 mt2 a1 a2 psx psy : Array ℝ)
    (x_s0 y_s0 mt1_s0 wmax mt2_s0 mt2_s1 umax vmax kmax a2_s0 a2_s1 a2_s2 psx_s0 psy_s0 : Nat) (hk : a2_s2 = kmax)
    {v w : Nat} (hv : v < vmax) (hw : w < wmax) (hu : 1 ≤ umax) :
    MultiEvent.combineMu ((List.range umax).map (stationEst x y mt1 mt2 a1 a2 psx psy vmax a2_s1 kmax wmax mt2_s1 v w))
      = some
        ((Pyx.cprobability.relative_amplitude_ratio_ln_pdf x x_s0 y y_s0 mt1 mt1_s0 wmax mt2 mt2_s0 mt2_s1 a1 umax vmax kmax
            a2 a2_s0 a2_s1 a2_s2 psx psx_s0 psy psy_s0).2.1.getD (v * wmax + w) (c 0),
         (Pyx.cprobability.relative_amplitude_ratio_ln_pdf x x_s0 y y_s0 mt1 mt1_s0 wmax mt2 mt2_s0 mt2_s1 a1 umax vmax kmax
            a2 a2_s0 a2_s1 a2_s2 psx psx_s0 psy psy_s0).2.2.getD (v * wmax + w) (c 0)) := by
  rw [relative_amplitude_ratio_scale_cell x y mt1 mt2 a1 a2 psx psy x_s0 y_s0 mt1_s0 wmax mt2_s0 mt2_s1 umax vmax kmax a2_s0
    a2_s1 a2_s2 psx_s0 psy_s0 hk hv hw hu]
  exact cellFold_eq_combineMu _ umax hu

/-! ### the theorems apply to the executable `Float` instance -/

example (x y mt1 mt2 a psx psy : Array Float) (x_s0 y_s0 mt1_s0 wmax mt2_s0 mt2_s1 umax vmax kmax psx_s0 psy_s0 : Nat)
    {v w : Nat} (hv : v < vmax) (hw : w < wmax) (hu : 1 ≤ umax) :
    ((Pyx.cprobability.scale_estimator x x_s0 y y_s0 mt1 mt1_s0 wmax mt2 mt2_s0 mt2_s1 a umax vmax kmax psx psx_s0 psy
        psy_s0).1.getD (v * wmax + w) (c 0),
     (Pyx.cprobability.scale_estimator x x_s0 y y_s0 mt1 mt1_s0 wmax mt2 mt2_s0 mt2_s1 a umax vmax kmax psx psx_s0 psy
        psy_s0).2.getD (v * wmax + w) (c 0))
      = ((List.range' 1 (umax - 1)).map (stationEst x y mt1 mt2 a a psx psy vmax vmax kmax wmax mt2_s1 v w)).foldl
          (fun acc st => (Pyx.cprobability.combine_mu acc.1 st.1 acc.2 st.2, Pyx.cprobability.combine_s acc.2 st.2))
          (stationEst x y mt1 mt2 a a psx psy vmax vmax kmax wmax mt2_s1 v w 0) :=
  scale_estimator_cell x y mt1 mt2 a psx psy x_s0 y_s0 mt1_s0 wmax mt2_s0 mt2_s1 umax vmax kmax psx_s0 psy_s0 hv hw hu

end MTfitVerif.C20

