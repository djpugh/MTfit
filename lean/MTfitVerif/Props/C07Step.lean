import MTfitVerif.Props.C07Stationary
import MTfitVerif.Real.ProposalCoordLemmas
/-
  C07 (step half) — ONE STEP OF THE SAMPLER'S MODEL has the law of the Metropolis–Hastings kernel.

  `propOpt_law` (`Real/ProposalCoordLemmas`) gives the law of a proposal (`shiftSample` on a stream of
  i.i.d. standard-normal draws) on every measurable set of coordinates (`C06Joint` has it on boxes),
  `C07Stationary` shows that the kernel `mhK` / `mhKernel` built from the proposal density `transPdf`
  and the acceptance `acceptMH` leaves the posterior invariant.  This file is the link: the step

      draw a proposal with `shiftSample` from the stream, draw a uniform `u`,
      accept iff `decide u (acceptMH …)`, otherwise keep the current state

  (`stepNext`) has — as the stream gets longer — exactly the law `mhK … (coordOf ξ) ·`.

  All statements are for every measurable set `B` of coordinates (not only boxes), for `dc = false`
  and `dc = true` alike, and the acceptance may depend on the strike.
  Sample space: `n` i.i.d. standard-normal draws and one independent uniform draw,
  `(Measure.pi fun _ : Fin n => gaussianReal 0 1).prod unif`.
-/

namespace MTfitVerif.C07
open LogP Acceptance Proposal Stationary StepLaw
open MeasureTheory ProbabilityTheory Filter Topology

/-! ## 1. the accept decision -/

/-- **The accept decision has the acceptance probability**: for `U` uniform on `[0,1)` (`unif`) and
    `a ≤ 1`, `P(decide U a = true) = a`.  (For `a < 0` both sides are `0`, so `0 ≤ a` is not needed.) -/
theorem accept_decision_law {a : ℝ} (h1 : a ≤ 1) :
    unif {u : ℝ | Acceptance.decide u a = true} = ENNReal.ofReal a := by
  simp only [C05.decide_iff]
  exact unif_lt h1

/-! ## 2. one step of the model -/
section Step
variable (prior : Bool → Tape ℝ → ℝ) (dc : Bool) (w : Widths ℝ) (L : Tape ℝ → LogP ℝ)

/-- one step of the single-event sampler from the state `ξ`: proposal from the stream `zs`, uniform
    draw `u`, accept iff `decide u (acceptMH …)`; on rejection (and when the stream is exhausted)
    the current state is kept -/
noncomputable def stepNext (ξ : Tape ℝ) (zs : List ℝ) (u : ℝ) : Tape ℝ :=
  match shiftSample dc w ξ zs with
  | some (x, _) => if Acceptance.decide u (acceptMH prior dc w ξ x (L ξ) (L x)) then x else ξ
  | none => ξ

theorem stepNext_some {ξ : Tape ℝ} {zs : List ℝ} {x : Tape ℝ} {rest : List ℝ}
    (h : shiftSample dc w ξ zs = some (x, rest)) (u : ℝ) :
    stepNext prior dc w L ξ zs u = if u < acceptMH prior dc w ξ x (L ξ) (L x) then x else ξ := by
  simp only [stepNext, h, C05.decide_iff]

theorem stepNext_none {ξ : Tape ℝ} {zs : List ℝ} (h : shiftSample dc w ξ zs = none) (u : ℝ) :
    stepNext prior dc w L ξ zs u = ξ := by
  simp [stepNext, h]

/-- the acceptance probability of the proposal with coordinates `y` from the state `ξ` is a
    measurable function of `y` -/
theorem measurable_acc_coord (ξ : Tape ℝ) (hprior : Measurable fun x : Coord => prior dc (toTape x))
    (hL : Measurable fun x : Coord => toProb (L (toTape x))) :
    Measurable fun y : Coord => acc prior dc w L ξ (toTape y) :=
  (measurable_acceptMH prior dc w L toTape (measurable_transPdf_coord dc w) hprior hL).comp
    (measurable_prodMk_left (x := coordOf ξ))

/-- **One step, stream of `n` draws (exact).**  With `n` i.i.d. standard-normal draws and one
    independent uniform draw, the next state lies in the measurable set `B` of coordinates with
    probability `c_n ∫_B a dΛ + (1 − c_n ∫ a dΛ) · 1_B(ξ)`, where `Λ = propLaw dc w ξ` is the product of
    the truncated-normal laws (point masses at 0 for `dc`) and the wrapped-normal strike law,
    `a = acceptMH` and `c_n = cSeq dc w ξ n` is the probability that the proposal is made within `n`
    draws. -/
theorem mh_step_law_finite (hp : ∀ b t, 0 ≤ prior b t) (hw : C05.WidthsPos w)
    (hprior : Measurable fun x : Coord => prior dc (toTape x))
    (hL : Measurable fun x : Coord => toProb (L (toTape x))) (ξ : Tape ℝ) (n : ℕ)
    {B : Set Coord} (hB : MeasurableSet B) :
    ((Measure.pi fun _ : Fin n => gaussianReal 0 1).prod unif)
        {p | coordOf (stepNext prior dc w L ξ (List.ofFn p.1) p.2) ∈ B} =
      cSeq dc w ξ n * ∫⁻ y in B, ENNReal.ofReal (acc prior dc w L ξ (toTape y)) ∂(propLaw dc w ξ) +
        (1 - cSeq dc w ξ n * ∫⁻ y, ENNReal.ofReal (acc prior dc w L ξ (toTape y)) ∂(propLaw dc w ξ)) *
          B.indicator 1 (coordOf ξ) := by
  exact step_law (Measure.pi fun _ : Fin n => gaussianReal 0 1) (propOpt dc w ξ n) measurable_id
    (coordOf ξ) (measurable_acc_coord prior dc w L ξ hprior hL)
    (fun y => (acc_mem_Icc prior dc w L hp hw ξ (toTape y)).2) (propLaw dc w ξ) (cSeq dc w ξ n)
    (propOpt_law dc w ξ (shiftWidths_pos hw) n)
    (fun ω u => coordOf (stepNext prior dc w L ξ (List.ofFn ω) u))
    (fun ω θ hθ u => by
      obtain ⟨⟨x, rest⟩, hx, rfl⟩ := Option.map_eq_some_iff.mp hθ
      rw [stepNext_some prior dc w L hx u, apply_ite coordOf]
      rfl)
    (fun ω hω u => by
      rw [stepNext_none prior dc w L (Option.map_eq_none_iff.mp hω) u])
    hB

/-- **One step has the Metropolis–Hastings law** (limit of a long stream).  As `n → ∞` the
    probability that the next state lies in `B` tends to
    `∫_B a dΛ + (1 − ∫ a dΛ) · 1_B(ξ)`: move to a proposal drawn from `Λ = propLaw dc w ξ` with
    probability `a = acceptMH`, otherwise stay. -/
theorem mh_step_law_limit (hp : ∀ b t, 0 ≤ prior b t) (hw : C05.WidthsPos w)
    (hprior : Measurable fun x : Coord => prior dc (toTape x))
    (hL : Measurable fun x : Coord => toProb (L (toTape x))) (ξ : Tape ℝ)
    {B : Set Coord} (hB : MeasurableSet B) :
    Tendsto (fun n : ℕ => ((Measure.pi fun _ : Fin n => gaussianReal 0 1).prod unif)
        {p | coordOf (stepNext prior dc w L ξ (List.ofFn p.1) p.2) ∈ B}) atTop
      (𝓝 (∫⁻ y in B, ENNReal.ofReal (acc prior dc w L ξ (toTape y)) ∂(propLaw dc w ξ) +
        (1 - ∫⁻ y, ENNReal.ofReal (acc prior dc w L ξ (toTape y)) ∂(propLaw dc w ξ)) *
          B.indicator 1 (coordOf ξ))) := by
  have hΛ := propLaw_prob dc w ξ (shiftWidths_pos hw)
  have ha1 := fun y : Coord => (acc_mem_Icc prior dc w L hp hw ξ (toTape y)).2
  refine (tendsto_congr fun n => mh_step_law_finite prior dc w L hp hw hprior hL ξ n hB).mpr ?_
  exact step_law_tendsto (propLaw dc w ξ) ha1 (cSeq_tendsto dc w ξ (shiftWidths_pos hw)) B B (coordOf ξ)

/-- **Identification with the kernel of `mh_chain_posterior_stationary_coord`.**  If the law of the
    strike draw from `ξ` has the density `k ξ.κ ·` w.r.t. a reference measure `μκ` on strike (the
    wrapped normal of the code w.r.t. Lebesgue on `[0, 2π)`), the limit law of one step from `ξ` is
    `mhK (refMeasure dc μκ) q a (coordOf ξ) B` with literally the proposal density `q` and acceptance
    `a` of `mh_chain_posterior_stationary_coord` — the kernel shown there to leave the posterior
    invariant. -/
theorem mh_step_law_limit_mhK (hp : ∀ b t, 0 ≤ prior b t) (hw : C05.WidthsPos w)
    (hprior : Measurable fun x : Coord => prior dc (toTape x))
    (hL : Measurable fun x : Coord => toProb (L (toTape x))) (ξ : Tape ℝ)
    (μκ : Measure ℝ) [SFinite μκ] (k : ℝ → ℝ → ℝ) (hkm : Measurable (Function.uncurry k))
    (hstrike : strikeLaw w ξ = μκ.withDensity fun b => ENNReal.ofReal (k ξ.kappa b))
    {B : Set Coord} (hB : MeasurableSet B) :
    Tendsto (fun n : ℕ => ((Measure.pi fun _ : Fin n => gaussianReal 0 1).prod unif)
        {p | coordOf (stepNext prior dc w L ξ (List.ofFn p.1) p.2) ∈ B}) atTop
      (𝓝 (mhK (refMeasure dc μκ)
        (fun x y => ENNReal.ofReal (propPdf dc w (toTape x) (toTape y) * k x.2.2.1 y.2.2.1))
        (fun x y => ENNReal.ofReal (acc prior dc w L (toTape x) (toTape y))) (coordOf ξ) B)) := by
  have h := mh_step_law_limit prior dc w L hp hw hprior hL ξ hB
  have hk : Measurable (k ξ.kappa) := Measurable.of_uncurry_left hkm
  have hq : Measurable fun y : Coord =>
      ENNReal.ofReal (transPdf dc w (toTape y) ξ * k ξ.kappa y.2.2.1) :=
    (((measurable_transPdf_coord dc w).comp (measurable_prodMk_left (x := coordOf ξ))).mul
      (hk.comp (f := fun y : Coord => y.2.2.1) (by fun_prop))).ennreal_ofReal
  have ha := (measurable_acc_coord prior dc w L ξ hprior hL).ennreal_ofReal
  rw [propLaw_eq_withDensity dc w ξ (shiftWidths_pos hw) μκ hk hstrike,
    setLIntegral_withDensity_eq_setLIntegral_mul _ hq ha hB,
    lintegral_withDensity_eq_lintegral_mul _ hq ha] at h
  exact h

/-- the same with the Mathlib `Kernel` `mhKernel` of `mh_chain_posterior_stationary_coord` (whose
    invariant measure is the posterior): the limit law of one step of the model from `ξ` is
    `mhKernel (refMeasure dc μκ) q a (coordOf ξ)` on every measurable set -/
theorem mh_step_law_limit_mhKernel (hp : ∀ b t, 0 ≤ prior b t) (hw : C05.WidthsPos w)
    (hprior : Measurable fun x : Coord => prior dc (toTape x))
    (hL : Measurable fun x : Coord => toProb (L (toTape x))) (ξ : Tape ℝ)
    (μκ : Measure ℝ) [SFinite μκ] (k : ℝ → ℝ → ℝ) (hkm : Measurable (Function.uncurry k))
    (hstrike : strikeLaw w ξ = μκ.withDensity fun b => ENNReal.ofReal (k ξ.kappa b))
    {B : Set Coord} (hB : MeasurableSet B) :
    Tendsto (fun n : ℕ => ((Measure.pi fun _ : Fin n => gaussianReal 0 1).prod unif)
        {p | coordOf (stepNext prior dc w L ξ (List.ofFn p.1) p.2) ∈ B}) atTop
      (𝓝 (mhKernel (refMeasure dc μκ)
        (fun x y => ENNReal.ofReal (propPdf dc w (toTape x) (toTape y) * k x.2.2.1 y.2.2.1))
        (fun x y => ENNReal.ofReal (acc prior dc w L (toTape x) (toTape y))) (coordOf ξ) B)) := by
  have hT := measurable_transPdf_coord dc w
  have hkm' : Measurable fun p : Coord × Coord => k p.1.2.2.1 p.2.2.2.1 :=
    hkm.comp (f := fun p : Coord × Coord => (p.1.2.2.1, p.2.2.2.1)) (by fun_prop)
  have hq : Measurable (Function.uncurry fun x y : Coord =>
      ENNReal.ofReal (propPdf dc w (toTape x) (toTape y) * k x.2.2.1 y.2.2.1)) :=
    (hT.mul hkm').ennreal_ofReal
  have ha : Measurable (Function.uncurry fun x y : Coord =>
      ENNReal.ofReal (acc prior dc w L (toTape x) (toTape y))) :=
    (measurable_acceptMH prior dc w L toTape hT hprior hL).ennreal_ofReal
  rw [mhKernel_apply hq ha _ hB]
  exact mh_step_law_limit_mhK prior dc w L hp hw hprior hL ξ μκ k hkm hstrike hB

/-- **The limit is the kernel `mhK` for the density `transPdf`.**  W.r.t. the reference measure
    "Lebesgue on the source domain (point masses at 0 on the lune coordinates for `dc`) × the law of
    the strike draw" the proposal has the density `transPdf dc w · ξ`, so the limit law of one step is
    `∫_B transPdf · acceptMH + (1 − ∫ transPdf · acceptMH) · 1_B(ξ)`, i.e. the move-or-stay kernel
    `Stationary.mhK` at the current state. -/
theorem mh_step_law_limit_transPdf (hp : ∀ b t, 0 ≤ prior b t) (hw : C05.WidthsPos w)
    (hprior : Measurable fun x : Coord => prior dc (toTape x))
    (hL : Measurable fun x : Coord => toProb (L (toTape x))) (ξ : Tape ℝ)
    {B : Set Coord} (hB : MeasurableSet B) :
    Tendsto (fun n : ℕ => ((Measure.pi fun _ : Fin n => gaussianReal 0 1).prod unif)
        {p | coordOf (stepNext prior dc w L ξ (List.ofFn p.1) p.2) ∈ B}) atTop
      (𝓝 (mhK (refMeasure dc (strikeLaw w ξ))
        (fun x y => ENNReal.ofReal (propPdf dc w (toTape x) (toTape y)))
        (fun x y => ENNReal.ofReal (acc prior dc w L (toTape x) (toTape y))) (coordOf ξ) B)) := by
  have h := mh_step_law_limit_mhK prior dc w L hp hw hprior hL ξ (strikeLaw w ξ) (fun _ _ => 1)
    measurable_const (by simp only [ENNReal.ofReal_one]; exact (withDensity_one).symm) hB
  simpa only [mul_one] using h

/-- **Box form.**  For measurable `Bγ, Bδ, Bκ, Bh, Bσ` the probability that the next state has
    `γ ∈ Bγ, δ ∈ Bδ, κ ∈ Bκ, h ∈ Bh, σ ∈ Bσ` tends to
    `∫_{Bγ×Bδ×Bκ×Bh×Bσ} transPdf dc w x ξ · acceptMH … ξ x … dx + (1 − total move probability) · 1_B(ξ)`,
    the integrals being w.r.t. Lebesgue on the source domain (point masses at 0 on `γ, δ` for `dc`)
    times the law of the strike draw. -/
theorem mh_step_law_limit_box (hp : ∀ b t, 0 ≤ prior b t) (hw : C05.WidthsPos w)
    (hprior : Measurable fun x : Coord => prior dc (toTape x))
    (hL : Measurable fun x : Coord => toProb (L (toTape x))) (ξ : Tape ℝ)
    {Bγ Bδ Bκ Bh Bσ : Set ℝ} (hBγ : MeasurableSet Bγ) (hBδ : MeasurableSet Bδ)
    (hBκ : MeasurableSet Bκ) (hBh : MeasurableSet Bh) (hBσ : MeasurableSet Bσ) :
    Tendsto (fun n : ℕ => ((Measure.pi fun _ : Fin n => gaussianReal 0 1).prod unif)
        {p | (stepNext prior dc w L ξ (List.ofFn p.1) p.2).gamma ∈ Bγ ∧
          (stepNext prior dc w L ξ (List.ofFn p.1) p.2).delta ∈ Bδ ∧
          (stepNext prior dc w L ξ (List.ofFn p.1) p.2).kappa ∈ Bκ ∧
          (stepNext prior dc w L ξ (List.ofFn p.1) p.2).h ∈ Bh ∧
          (stepNext prior dc w L ξ (List.ofFn p.1) p.2).sigma ∈ Bσ}) atTop
      (𝓝 (∫⁻ y in Bγ ×ˢ (Bδ ×ˢ (Bκ ×ˢ (Bh ×ˢ Bσ))),
            ENNReal.ofReal (transPdf dc w (toTape y) ξ) *
              ENNReal.ofReal (acceptMH prior dc w ξ (toTape y) (L ξ) (L (toTape y)))
            ∂(refMeasure dc (strikeLaw w ξ)) +
        (1 - ∫⁻ y, ENNReal.ofReal (transPdf dc w (toTape y) ξ) *
              ENNReal.ofReal (acceptMH prior dc w ξ (toTape y) (L ξ) (L (toTape y)))
            ∂(refMeasure dc (strikeLaw w ξ))) *
          (Bγ ×ˢ (Bδ ×ˢ (Bκ ×ˢ (Bh ×ˢ Bσ)))).indicator 1 (coordOf ξ))) := by
  have h := mh_step_law_limit_transPdf prior dc w L hp hw hprior hL ξ
    (hBγ.prod (hBδ.prod (hBκ.prod (hBh.prod hBσ))))
  refine h.congr (fun n => ?_)
  congr 1

end Step

/-- the hypotheses are satisfiable (shipped flat prior, constant likelihood, unit widths), for both
    chain types -/
example (dc : Bool) (ξ : Tape ℝ) {B : Set Coord} (hB : MeasurableSet B) :
    let prior : Bool → Tape ℝ → ℝ := flatPrior
    let w : Widths ℝ := ⟨1, 1, 1, 1, 1, 1, 1, 1⟩
    let L : Tape ℝ → LogP ℝ := fun _ => fin 0
    Tendsto (fun n : ℕ => ((Measure.pi fun _ : Fin n => gaussianReal 0 1).prod unif)
        {p | coordOf (stepNext prior dc w L ξ (List.ofFn p.1) p.2) ∈ B}) atTop
      (𝓝 (mhK (refMeasure dc (strikeLaw w ξ))
        (fun x y => ENNReal.ofReal (propPdf dc w (toTape x) (toTape y)))
        (fun x y => ENNReal.ofReal (acc prior dc w L (toTape x) (toTape y))) (coordOf ξ) B)) := by
  intro prior w L
  refine mh_step_law_limit_transPdf prior dc w L flatPrior_nonneg (by simp [C05.WidthsPos, w]) ?_
    measurable_const ξ hB
  simp only [prior, flatPrior]
  exact measurable_const

end MTfitVerif.C07
