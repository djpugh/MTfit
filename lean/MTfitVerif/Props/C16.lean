import MTfitVerif.Real.JobPoolLemmas
/-
  C16 — the worker pool returns every submitted task result exactly once.
  Theorems about the transition system, for every interleaving (event list), any number of
  workers and tasks.  The tie to CPython's multiprocessing is trace validation: logged queue
  events of real runs are replayed through `step` by the harness.
-/
namespace MTfitVerif.C16
open JobPool List

/-- every submitted task is in exactly one place: queued, running, in the result queue, handed to
    the caller, or skipped as a status code; ids are unique; `number_jobs` counts the outstanding ones -/
def Inv (s : State) : Prop :=
  (s.taskQ ++ running s ++ s.resultQ ++ s.collected ++ s.skipped).Perm (s.kinds.map (·.1)) ∧
  (s.kinds.map (·.1)).Nodup ∧
  s.numberJobs = (outstanding s).length ∧
  (∀ id ∈ s.collected, kindOf s id ≠ some .code) ∧ (∀ id ∈ s.skipped, kindOf s id = some .code)

theorem inv_init (n : Nat) : Inv (init n) := by
  have hr : running (init n) = [] :=
    filterMap_eq_nil_iff.mpr fun a ha => by rw [eq_of_mem_replicate ha]
  unfold Inv outstanding
  rw [hr]
  simp [init]

/-- the invariant depends on the outstanding ids only up to permutation -/
theorem _root_.MTfitVerif.JobPool.inv_of_perm {s s' : State} (h : Inv s) (hk : s'.kinds = s.kinds)
    (ho : (outstanding s').Perm (outstanding s)) (hj : s'.numberJobs = s.numberJobs)
    (hc : s'.collected = s.collected) (hsk : s'.skipped = s.skipped) : Inv s' := by
  obtain ⟨P, N, J, C, K⟩ := h
  unfold Inv kindOf at *
  rw [hk, hj, hc, hsk]
  exact ⟨((ho.append_right _).append_right _).trans P, N, J.trans ho.length_eq.symm, C, K⟩

/-- the invariant is preserved by every enabled step -/
theorem step_inv (s s' : State) (e : Event) (h : Inv s) (hs : step s e = some s') : Inv s' := by
  cases e with
  | submit id k =>
    obtain ⟨P, N, J, C, K⟩ := h
    obtain ⟨hl, rfl⟩ := step_submit hs
    have hnot : id ∉ s.kinds.map (·.1) := (lookup_eq_none_iff_not_mem _ _).mp hl
    have hne : ∀ x ∈ s.taskQ ++ running s ++ s.resultQ ++ s.collected ++ s.skipped, x ≠ id :=
      fun x hx e => hnot (e ▸ P.subset hx)
    refine ⟨Perm.cons id P, nodup_cons.mpr ⟨hnot, N⟩, congrArg (· + 1) J, fun x hx => ?_, fun x hx => ?_⟩
    · show lookup x ((id, k) :: s.kinds) ≠ some .code
      rw [lookup_cons_ne _ _ (hne x (mem_append_left _ (mem_append_right _ hx)))]
      exact C x hx
    · show lookup x ((id, k) :: s.kinds) = some .code
      rw [lookup_cons_ne _ _ (hne x (mem_append_right _ hx))]
      exact K x hx
  | take w id =>
    obtain ⟨hw, hid, rfl⟩ := step_take hs
    exact inv_of_perm h rfl (Perm.append_right _ (take_perm hid
      (filterMap_set_some rid rid_idle (rid_running id) hw))) rfl rfl rfl
  | finish w =>
    obtain ⟨id, hw, rfl⟩ := step_finish hs
    exact inv_of_perm h rfl (finish_perm (filterMap_set_none rid (rid_running id)
      (rid_dead_or_idle (kindOf s id = some .raise)) hw)) rfl rfl rfl
  | collect id =>
    obtain ⟨P, N, J, C, K⟩ := h
    obtain ⟨hid, hj, hcase⟩ := step_collect hs
    have hJ : s.numberJobs - 1 = (s.taskQ ++ running s ++ s.resultQ.erase id).length := by
      rw [J, outstanding, (perm_append_cons (perm_cons_erase hid)).length_eq]
      rfl
    rcases hcase with ⟨hk, rfl⟩ | ⟨hk, rfl⟩
    · exact ⟨(collect_perm_skipped (A := s.taskQ ++ running s) hid).trans P, N, hJ, C,
        forall_mem_cons.mpr ⟨hk, K⟩⟩
    · exact ⟨(collect_perm_collected (A := s.taskQ ++ running s) hid).trans P, N, hJ,
        forall_mem_cons.mpr ⟨hk, C⟩, K⟩
  | clean =>
    obtain rfl := step_clean hs
    exact inv_of_perm h rfl (.of_eq (congrArg (s.taskQ ++ · ++ s.resultQ) (filterMap_rid_map_revive s.workers)))
      rfl rfl rfl
  | close =>
    obtain rfl := step_close hs
    exact inv_of_perm h rfl (.refl _) rfl rfl rfl
  | takePill w =>
    obtain ⟨hw, _, rfl⟩ := step_takePill hs
    exact inv_of_perm h rfl (.of_eq (congrArg (s.taskQ ++ · ++ s.resultQ) (filterMap_set_same rid (by rfl) hw)))
      rfl rfl rfl

theorem _root_.MTfitVerif.JobPool.run_inv_from {es : List Event} {s s' : State} (h : Inv s)
    (hr : run s es = some s') : Inv s' := by
  induction es generalizing s with
  | nil => exact Option.some.inj hr ▸ h
  | cons e es ih =>
    obtain ⟨s1, hst, hr⟩ := run_cons_eq_some.mp hr
    exact ih (step_inv s s1 e h hst) hr

/-- the invariant holds after every interleaving of submissions, worker steps, collections,
    cleaning and closing -/
theorem run_inv (n : Nat) (es : List Event) (s : State) (h : run (init n) es = some s) : Inv s :=
  run_inv_from (inv_init n) h

/-- exactly once: no task id is ever in two places or twice in one -/
theorem exactly_once (s : State) (h : Inv s) :
    (s.taskQ ++ running s ++ s.resultQ ++ s.collected ++ s.skipped).Nodup :=
  h.1.nodup_iff.mpr h.2.1

/-- when nothing is outstanding, the caller has received precisely the results of all submitted
    tasks that are not status codes, each once -/
theorem all_collected (s : State) (h : Inv s) (h0 : s.numberJobs = 0) :
    s.collected.Perm ((s.kinds.filter fun p => p.2 ≠ .code).map (·.1)) := by
  obtain ⟨P, N, J, C, K⟩ := h
  have hout : s.taskQ ++ running s ++ s.resultQ = [] := eq_nil_of_length_eq_zero (J.symm.trans h0)
  rw [hout, nil_append] at P
  have hf := filter_append_eq_left (fun id => decide (kindOf s id ≠ some Kind.code))
    s.collected s.skipped (by intro a ha; simpa using C a ha) (by intro a ha; simpa using K a ha)
  rw [← hf]
  exact (P.filter _).trans (Perm.of_eq (map_fst_filter_snd s.kinds (fun k => decide (k ≠ Kind.code)) _
    fun p hp => by simp [kindOf, lookup_of_mem_nodup N hp]).symm)

/-- a raising task kills its worker but its exception is delivered like any other result: after
    `finish` the id is in the result queue whatever the kind -/
theorem finish_delivers (s s' : State) (w id : Nat) (hw : s.workers[w]? = some (.running id))
    (hs : step s (.finish w) = some s') : id ∈ s'.resultQ := by
  rw [step_finish_enabled hw, Option.some.injEq] at hs
  subst hs
  exact mem_cons_self

def isProgress : Event → Bool
  | .take _ _ | .finish _ | .collect _ => true
  | _ => false

def deadCount (s : State) : Nat := (s.workers.filter (· = .dead)).length
def liveSlots (s : State) : Nat := (s.workers.filter (· ≠ .exited)).length

-- (`s.pills = 0` is not needed by the proof: pills only matter for `takePill`)
set_option linter.unusedVariables false in
/-- no deadlock while results are outstanding: if the pool has a worker slot that has not been
    closed, then either a progress event is enabled, or a dead worker can be replaced (which the
    collecting call does) -/
theorem no_deadlock (s : State) (h : Inv s) (hj : 0 < s.numberJobs) (hlive : 0 < liveSlots s) (hp : s.pills = 0) :
    (∃ e, isProgress e = true ∧ (step s e).isSome) ∨ 0 < deadCount s := by
  obtain ⟨P, N, J, C, K⟩ := h
  by_cases hq : s.resultQ = []
  · by_cases hr : running s = []
    · -- everything outstanding is queued
      have ht : s.taskQ ≠ [] := by
        intro ht
        rw [J, outstanding, ht, hr, hq] at hj
        simp at hj
      obtain ⟨id, hid⟩ := exists_mem_of_ne_nil _ ht
      by_cases hidle : WState.idle ∈ s.workers
      · obtain ⟨w, hw⟩ := mem_iff_getElem?.mp hidle
        left
        refine ⟨.take w id, rfl, ?_⟩
        rw [step_take_enabled hw hid]
        rfl
      · right
        -- with no idle and no running worker the live slots are the dead ones
        have hld : s.workers.filter (· ≠ .exited) = s.workers.filter (· = .dead) :=
          filter_congr fun x hx => by
            cases x with
            | idle => exact absurd hx hidle
            | running id' => exact absurd (hr ▸ mem_filterMap.mpr ⟨_, hx, rfl⟩ : id' ∈ []) not_mem_nil
            | dead => rfl
            | exited => rfl
        exact Nat.lt_of_lt_of_eq hlive (congrArg length hld)
    · left
      rw [running_eq] at hr
      obtain ⟨w, id, hw⟩ := exists_running_index hr
      refine ⟨.finish w, rfl, ?_⟩
      rw [step_finish_enabled hw]
      rfl
  · left
    obtain ⟨id, hid⟩ := exists_mem_of_ne_nil _ hq
    refine ⟨.collect id, rfl, ?_⟩
    rw [show step s (.collect id) = _ from if_pos ⟨hid, hj⟩]
    dsimp only
    split <;> rfl

/-- termination measure: strictly decreases on every progress event and on every cleaning that
    replaces a dead worker; it never increases without a submission -/
def measure (s : State) : Nat := 6 * s.taskQ.length + 4 * (running s).length + s.resultQ.length + 2 * deadCount s

theorem progress_decreases (s s' : State) (e : Event) (hp : isProgress e = true) (hs : step s e = some s') :
    measure s' < measure s := by
  cases e with
  | take w id =>
    obtain ⟨hw, hid, rfl⟩ := step_take hs
    have hR := (filterMap_set_some rid rid_idle (rid_running id) hw).length_eq
    have hD := length_filter_set_of_false (fun x => decide (x = WState.dead)) (y := .running id) rfl rfl hw
    have hT := length_erase_of_mem hid
    have hpos := length_pos_of_mem hid
    rw [length_cons] at hR
    simp only [measure, deadCount, running_eq]
    omega
  | finish w =>
    obtain ⟨id, hw, rfl⟩ := step_finish hs
    have hR := (filterMap_set_none rid (rid_running id) (rid_dead_or_idle (kindOf s id = some .raise)) hw).length_eq
    have hD := length_filter_set_le (fun x => decide (x = WState.dead))
      (y := if kindOf s id = some .raise then WState.dead else WState.idle) hw
    rw [length_cons] at hR
    simp only [measure, deadCount, running_eq, length_cons]
    omega
  | collect id =>
    obtain ⟨hid, -, hcase⟩ := step_collect hs
    have hm : measure s' = 6 * s.taskQ.length + 4 * (running s).length + (s.resultQ.erase id).length +
        2 * deadCount s := by
      rcases hcase with ⟨-, rfl⟩ | ⟨-, rfl⟩ <;> rfl
    rw [hm, length_erase_of_mem hid, measure]
    exact Nat.add_lt_add_right (Nat.add_lt_add_left (Nat.sub_lt (length_pos_of_mem hid) Nat.one_pos) _) _
  | submit id k => cases hp
  | clean => cases hp
  | close => cases hp
  | takePill w => cases hp

theorem clean_decreases (s s' : State) (hd : 0 < deadCount s) (hs : step s .clean = some s') :
    measure s' < measure s ∧ deadCount s' = 0 := by
  have := step_clean hs
  subst this
  have h0 : deadCount { s with workers := s.workers.map revive } = 0 := by
    unfold deadCount
    rw [length_eq_zero_iff, filter_eq_nil_iff]
    exact forall_mem_map.2 fun x _ => by simpa using revive_ne_dead x
  refine ⟨?_, h0⟩
  have hr : running { s with workers := s.workers.map revive } = running s :=
    filterMap_rid_map_revive s.workers
  unfold measure
  rw [h0, hr]
  exact Nat.add_lt_add_left (Nat.mul_pos (Nat.succ_pos 1) hd) _

/-- collecting everything terminates: any sequence of progress / cleaning-of-dead events from a
    state is no longer than its measure -/
theorem collection_terminates (s : State) (es : List Event) (s' : State) (h : run s es = some s')
    (hall : ∀ e ∈ es, isProgress e = true) : es.length ≤ measure s := by
  induction es generalizing s with
  | nil => exact Nat.zero_le _
  | cons e es ih =>
    obtain ⟨s1, hst, h⟩ := run_cons_eq_some.mp h
    have h1 := progress_decreases s s1 e (hall e mem_cons_self) hst
    have h2 := ih s1 h (fun e' he' => hall e' (mem_cons_of_mem _ he'))
    exact Nat.lt_of_le_of_lt h2 h1

/-- closing ends every worker: with all workers idle, `close` followed by one `takePill` per
    worker is enabled and leaves every worker exited -/
theorem close_ends_all_workers (n : Nat) (s : State) (hw : s.workers = List.replicate n .idle) (hp : s.pills = 0) :
    ∃ s', run s (.close :: (List.range n).map .takePill) = some s' ∧ s'.workers = List.replicate n .exited ∧ s'.pills = 0 := by
  obtain ⟨s', hr, hw', hp'⟩ := run_takePills n [] { s with pills := s.pills + s.workers.length } hw
    (by show s.pills + s.workers.length = n; rw [hp, hw, length_replicate, Nat.zero_add])
  refine ⟨s', ?_, hw', hp'⟩
  rw [range_eq_range']
  exact hr

end MTfitVerif.C16
