import MTfitVerif.Props.C02
import MTfitVerif.Props.C03
import MTfitVerif.Real.ForwardLemmas
/-
  C01 — the posterior of a source is the product of its independent data likelihoods; with
  location samples it is the weight-multiplied sum over the samples of that product.
-/
namespace MTfitVerif.C01
open LogP Polarity RatioPdf LogDomain Forward

/-- likelihood (probability scale) of tensor `mt` at location sample `k`: the product over the
    stations of every selected data type -/
noncomputable def likAt (d : Data ℝ) (k : Nat) (mt : List ℝ) : ℝ :=
  (if !d.pol.isEmpty then
      (d.pol.map fun s => polProb (dot (s.coeffs.getD k []) mt) s.sigma s.w).prod
    else (d.polProb.map fun s => polProbP (dot (s.coeffs.getD k []) mt) s.pp s.pn s.w).prod)
  * (d.ar.map fun s => arPdf s.ratio (dot (s.cx.getD k []) mt) (dot (s.cy.getD k []) mt) s.px s.py).prod

/-- well-formed data: every probability-like datum lies in [0,1] -/
def WF (d : Data ℝ) : Prop :=
  (∀ s ∈ d.pol, 0 ≤ s.w ∧ s.w ≤ 1) ∧
  (∀ s ∈ d.polProb, (0 ≤ s.pp ∧ s.pp ≤ 1) ∧ (0 ≤ s.pn ∧ s.pn ≤ 1) ∧ (0 ≤ s.w ∧ s.w ≤ 1))

/-- the polarity term denotes the product of the station probabilities of the polarity data
    type in use (manual polarities, else polarity probabilities, else nothing = 1) -/
theorem polTerm_toProb (d : Data ℝ) (hwf : WF d) (k : Nat) (mt : List ℝ) :
    toProb (polTerm d k mt) =
      (if !d.pol.isEmpty then
        (d.pol.map fun s => polProb (dot (s.coeffs.getD k []) mt) s.sigma s.w).prod
      else (d.polProb.map fun s => polProbP (dot (s.coeffs.getD k []) mt) s.pp s.pn s.w).prod) := by
  rw [polTerm_eq]
  split_ifs
  exacts [C02.lnPolAt_toProb _ k mt hwf.1, C02.lnPolProbAt_toProb _ k mt hwf.2]

/-- the log-likelihood at one location sample denotes the product of the station likelihoods of
    every supplied data type (sum of logs, any number of stations) -/
theorem lnAt_toProb (d : Data ℝ) (hwf : WF d) (k : Nat) (mt : List ℝ) :
    toProb (lnAt d k mt) = likAt d k mt := by
  rw [lnAt_eq_add, toProb_add, polTerm_toProb d hwf, C03.lnArAt_toProb]; rfl

/-- no location samples: the reported value is the sum of the log-likelihoods -/
theorem value_no_loc (d : Data ℝ) (hwf : WF d) (h1 : d.nloc = 1) (mt : List ℝ) :
    toProb (value d mt) = likAt d 0 mt := by
  have hv : value d mt = lnAt d 0 mt := by
    unfold value column
    rw [h1]
    simp only [gt_iff_lt, lt_irrefl, if_false, List.range_one, List.map_cons, List.map_nil,
      List.headD_cons]
    exact weighted_of_nloc_le_one h1.le 0 _
  rw [hv, lnAt_toProb d hwf]

/-- location samples with weights `w > 0`: the reported value denotes `Σₖ wₖ · Πᵢ pᵢₖ` -/
theorem value_loc_weighted (d : Data ℝ) (hwf : WF d) (hK : 1 < d.nloc) (ws : List ℝ)
    (hws : d.weights = some ws) (hlen : ws.length = d.nloc) (hpos : ∀ w ∈ ws, 0 < w) (mt : List ℝ) :
    toProb (value d mt) = ((List.range d.nloc).map fun k => ws.getD k 1 * likAt d k mt).sum := by
  rw [toProb_value_of_one_lt_nloc d hK]
  refine congrArg _ (List.map_congr_left fun k hk => ?_)
  have hk' : k < ws.length := by rw [hlen]; exact List.mem_range.mp hk
  have hw : 0 < ws.getD k 1 := by
    rw [List.getD_eq_getElem?_getD, List.getElem?_eq_getElem hk', Option.getD_some]
    exact hpos _ (List.getElem_mem hk')
  rw [weighted_of_some hK hws, toProb_shift, Real.exp_log hw, lnAt_toProb d hwf, mul_comm]

/-- location samples without weights: the plain sum `Σₖ Πᵢ pᵢₖ` over the samples -/
theorem value_loc_unweighted (d : Data ℝ) (hwf : WF d) (hK : 1 < d.nloc) (hws : d.weights = none)
    (mt : List ℝ) :
    toProb (value d mt) = ((List.range d.nloc).map fun k => likAt d k mt).sum := by
  rw [toProb_value_of_one_lt_nloc d hK]
  exact congrArg _ (List.map_congr_left fun k _ => by rw [weighted_of_none hws, lnAt_toProb d hwf])

-- (`har` is not needed by the proof)
set_option linter.unusedVariables false in
/-- adding the amplitude-ratio data type adds exactly its log-likelihood -/
theorem add_ar_adds_term (d : Data ℝ) (ar : List (ArStation ℝ)) (har : ar ≠ []) (hd : d.ar = [])
    (k : Nat) (mt : List ℝ) :
    lnAt { d with ar := ar } k mt = add (lnAt d k mt) (lnArAt ar k mt) := by
  rw [lnAt_eq_add, lnAt_of_ar_eq_nil hd]; rfl

/-- a data type that is not supplied contributes nothing: with no amplitude ratios the value is
    the polarity term alone; with no polarity information it is the amplitude-ratio term alone -/
theorem only_selected_contribute (d : Data ℝ) (k : Nat) (mt : List ℝ) :
    (d.ar = [] → lnAt d k mt = polTerm d k mt) ∧
    (d.pol = [] → d.polProb = [] → d.ar ≠ [] → toProb (lnAt d k mt) = toProb (lnArAt d.ar k mt)) :=
  ⟨fun hd => lnAt_of_ar_eq_nil hd k mt,
    fun hp hpp _ => congrArg toProb (lnAt_of_pol_eq_nil hp hpp k mt)⟩

/-- the value of a candidate does not depend on which other candidates share its batch, and
    results stay paired with their own tensors -/
theorem batch_independent (d : Data ℝ) (marg : Bool) (mts : List (List ℝ)) :
    lnPdfRows d true mts = [mts.map (value d)] ∧
    (run d marg true mts).1 = List.range mts.length := by
  constructor
  · unfold lnPdfRows; simp
  · unfold run; simp

/-- station order does not matter -/
theorem perm_pol_stations (d : Data ℝ) (pol' : List (PolStation ℝ)) (h : d.pol.Perm pol')
    (mt : List ℝ) : value { d with pol := pol' } mt = value d mt := by
  refine value_congr (d := d) (d' := { d with pol := pol' }) rfl rfl mt ?_
  intro k
  unfold lnAt polTerm
  simp only [← h.isEmpty_eq, ← lnPolAt_perm h]

theorem perm_ar_stations (d : Data ℝ) (ar' : List (ArStation ℝ)) (h : d.ar.Perm ar')
    (mt : List ℝ) : value { d with ar := ar' } mt = value d mt := by
  refine value_congr (d := d) (d' := { d with ar := ar' }) rfl rfl mt ?_
  intro k
  unfold lnAt polTerm
  simp only [← h.isEmpty_eq, ← lnArAt_perm h]

/-- the order of the location samples does not matter: any permutation of a column of
    per-sample values has the same marginal -/
theorem perm_location_samples {col col' : List (LogP ℝ)} (h : col.Perm col') (dV : ℝ) :
    lnMargCol col dV = lnMargCol col' dV :=
  lnMargCol_perm h dV

/-- a duplicated location sample is the same as one sample with the summed weight -/
theorem duplicate_vs_weight (x : LogP ℝ) (rest : List (LogP ℝ)) {a b : ℝ} (ha : 0 < a) (hb : 0 < b) :
    toProb (lnMargCol (shift x (Real.log a) :: shift x (Real.log b) :: rest) 1)
      = toProb (lnMargCol (shift x (Real.log (a + b)) :: rest) 1) := by
  rw [C04.lnMargCol_exact _ one_pos, C04.lnMargCol_exact _ one_pos]
  simp only [List.map_cons, List.sum_cons, toProb_shift, Real.exp_log ha, Real.exp_log hb,
    Real.exp_log (add_pos ha hb)]
  ring

/-- zero filtering keeps exactly the candidates of non-zero probability, each paired with its own
    tensor and value -/
theorem filter_commutes (d : Data ℝ) (mts : List (List ℝ)) :
    let r := run d true false mts
    r.1 = (List.range mts.length).filter (fun i => isFin (value d (mts.getD i []))) ∧
    r.2.1 = [(mts.filter (fun mt => isFin (value d mt))).map (value d)] ∧
    r.2.2 = mts.length := by
  refine ⟨zip_range_filter_fst (fun mt => isFin (value d mt)) [] mts, ?_, rfl⟩
  simp only [run, Bool.false_eq_true, if_false, lnPdfRows, Bool.true_or, if_true]
  exact congrArg (fun l => [l.map (value d)])
    (zip_range_filter_snd (fun mt => isFin (value d mt)) mts)

end MTfitVerif.C01
