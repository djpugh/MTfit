import MTfitVerif.Real.RandomMeasureLemmas
import MTfitVerif.Props.C08
/-
  C08 — distributional half: the law of the random samplers is rotation invariant.
-/
namespace MTfitVerif.C08
open MTfitVerif.Convert MTfitVerif.RandomMT MeasureTheory ProbabilityTheory

/-- law of the model's full-moment-tensor sampler `randomMt` when its six inputs are i.i.d.
    standard normal (see `gaussian_input_iid`), as a measure on Euclidean six-space -/
noncomputable def sampleLaw : Measure E6 :=
  (stdGaussian E6).map (fun x => toE6 (randomMt (ofE6 x)))

/-- the bridging maps are mutually inverse and carry the model norm to the Euclidean norm -/
theorem bridge6 : (∀ v : V6 ℝ, ofE6 (toE6 v) = v) ∧ (∀ x : E6, toE6 (ofE6 x) = x) ∧
    (∀ v : V6 ℝ, ‖toE6 v‖ = v.norm) := ⟨ofE6_toE6, toE6_ofE6, norm_toE6⟩

/-- **rotation invariance**: the law of the sampled six-vector is invariant under every linear
    isometry of six-space -/
theorem randomMt_law_invariant (U : E6 ≃ₗᵢ[ℝ] E6) : sampleLaw.map U = sampleLaw :=
  map_invariant_of_equivariant measurable_sampler6 U.continuous.measurable U.continuous.measurable
    (stdGaussian_map U) fun x => by rw [toE6_randomMt_ofE6, toE6_randomMt_ofE6, normalize_map]

example : sampleLaw.map (LinearIsometryEquiv.refl ℝ E6) = sampleLaw :=
  randomMt_law_invariant _

/-- the standard Gaussian on six-space is the law of six independent `N(0,1)` draws -/
theorem gaussian_input_iid :
    (Measure.pi (fun _ : Fin 6 => gaussianReal 0 1)).map (WithLp.toLp 2) = stdGaussian E6 :=
  map_pi_eq_stdGaussian

/-- law of the sampled six-vector, written directly from six independent `N(0,1)` draws
    `g : Fin 6 → ℝ` fed to the model as `⟨g 0, …, g 5⟩` -/
noncomputable def sampleLawIid : Measure E6 :=
  (Measure.pi (fun _ : Fin 6 => gaussianReal 0 1)).map
    (fun g => toE6 (randomMt ⟨g 0, g 1, g 2, g 3, g 4, g 5⟩))

theorem sampleLawIid_eq : sampleLawIid = sampleLaw := by
  unfold sampleLawIid sampleLaw
  rw [← gaussian_input_iid, Measure.map_map measurable_sampler6 (WithLp.measurable_toLp 2 _)]
  rfl

theorem randomMt_law_invariant_iid (U : E6 ≃ₗᵢ[ℝ] E6) : sampleLawIid.map U = sampleLawIid := by
  rw [sampleLawIid_eq]; exact randomMt_law_invariant U

/-- the law is carried by the unit sphere of six-space -/
theorem randomMt_law_on_sphere : sampleLaw (Metric.sphere (0 : E6) 1)ᶜ = 0 :=
  map_compl_null measurable_sampler6 Metric.isClosed_sphere.measurableSet <| by
    filter_upwards [stdGaussian_ae_ne_zero (E := E6)] with x hx
    rw [mem_sphere_iff_norm, sub_zero, toE6_randomMt_ofE6]
    exact NormedSpace.norm_normalize hx

instance : IsProbabilityMeasure sampleLaw :=
  Measure.isProbabilityMeasure_map measurable_sampler6.aemeasurable

/-! ### orientation: the random triad -/

/-- the bridging maps for three-vectors are mutually inverse and carry the model norm to the
    Euclidean norm -/
theorem bridge3 : (∀ v : V3 ℝ, ofE3 (toE3 v) = v) ∧ (∀ x : E3, toE3 (ofE3 x) = x) ∧
    (∀ v : V3 ℝ, ‖toE3 v‖ = v.norm) := ⟨ofE3_toE3, toE3_ofE3, norm_toE3⟩

/-- `R` preserves the model's cross product (i.e. `R` is a proper rotation, `det R = 1`);
    `actV3 R v = ofE3 (R (toE3 v))` is `R` acting on a model three-vector -/
def PreservesCross (R : E3 ≃ₗᵢ[ℝ] E3) : Prop :=
  ∀ a b : V3 ℝ, actV3 R (V3.cross a b) = V3.cross (actV3 R a) (actV3 R b)

theorem preservesCross_refl : PreservesCross (LinearIsometryEquiv.refl ℝ E3) := fun a b => by
  simp only [actV3, LinearIsometryEquiv.coe_refl, id_eq, ofE3_toE3]

/-- the cross-product hypothesis holds for every linear isometry of determinant one, i.e. for
    every proper rotation -/
theorem preservesCross_of_det_one (R : E3 ≃ₗᵢ[ℝ] E3)
    (hdet : LinearMap.det (R.toLinearEquiv : E3 →ₗ[ℝ] E3) = 1) : PreservesCross R := fun a b => by
  apply vec3_injective
  rw [vec3_actV3, vec3_cross, vec3_cross, vec3_actV3, vec3_actV3,
    mulVec_cross_of_rot _ (matE3_orth R) ((matE3_det R).trans hdet)]

/-- rotating both Gaussian draws rotates the whole triad (unconditionally: degenerate draws give
    zero vectors on both sides, as `unit 0 = 0` in the model over ℝ) -/
theorem triad_equivariant (R : E3 ≃ₗᵢ[ℝ] E3) (hR : PreservesCross R) (a x : V3 ℝ) :
    triad (actV3 R a) (actV3 R x) =
      (actV3 R (triad a x).1, actV3 R (triad a x).2.1, actV3 R (triad a x).2.2) := by
  have hR' : ∀ a b : V3 ℝ, V3.cross (actV3 R a) (actV3 R b) = actV3 R (V3.cross a b) :=
    fun a b => (hR a b).symm
  simp only [triad_eq, unit_actV3, hR']

example (a x : V3 ℝ) : triad (actV3 (LinearIsometryEquiv.refl ℝ E3) a) (actV3 (LinearIsometryEquiv.refl ℝ E3) x) =
    (actV3 (LinearIsometryEquiv.refl ℝ E3) (triad a x).1, actV3 (LinearIsometryEquiv.refl ℝ E3) (triad a x).2.1,
      actV3 (LinearIsometryEquiv.refl ℝ E3) (triad a x).2.2) :=
  triad_equivariant _ preservesCross_refl a x

/-- law of the random triad when the two raw three-vectors are independent standard Gaussian
    three-vectors, as a measure on `E3 × E3 × E3`; `triadE p` is `triad (ofE3 p.1) (ofE3 p.2)`
    with its three components mapped back by `toE3` -/
noncomputable def triadLaw : Measure (E3 × E3 × E3) :=
  ((stdGaussian E3).prod (stdGaussian E3)).map triadE

theorem triadE_def (p : E3 × E3) : triadE p =
    (toE3 (triad (ofE3 p.1) (ofE3 p.2)).1, toE3 (triad (ofE3 p.1) (ofE3 p.2)).2.1,
      toE3 (triad (ofE3 p.1) (ofE3 p.2)).2.2) := rfl

theorem triadE_equivariant (R : E3 ≃ₗᵢ[ℝ] E3) (hR : PreservesCross R) (p : E3 × E3) :
    triadE (R p.1, R p.2) = (R (triadE p).1, R (triadE p).2.1, R (triadE p).2.2) := by
  simp only [triadE_def, ← actV3_ofE3, triad_equivariant R hR, toE3_actV3]

/-- **uniformly random orientation**: the law of the random triad is invariant under every proper
    rotation applied to its three vectors -/
theorem triad_law_invariant (R : E3 ≃ₗᵢ[ℝ] E3) (hR : PreservesCross R) :
    triadLaw.map (Prod.map R (Prod.map R R)) = triadLaw :=
  have hRm : Measurable R := R.continuous.measurable
  map_invariant_of_equivariant measurable_triadE (hRm.prodMap hRm) (hRm.prodMap (hRm.prodMap hRm))
    (stdGaussian_prod_map R) fun p => (triadE_equivariant R hR p).symm

example : triadLaw.map (Prod.map (LinearIsometryEquiv.refl ℝ E3)
    (Prod.map (LinearIsometryEquiv.refl ℝ E3) (LinearIsometryEquiv.refl ℝ E3))) = triadLaw :=
  triad_law_invariant _ preservesCross_refl

/-- uniformly random orientation, stated with the determinant condition -/
theorem triad_law_invariant_of_det_one (R : E3 ≃ₗᵢ[ℝ] E3)
    (hdet : LinearMap.det (R.toLinearEquiv : E3 →ₗ[ℝ] E3) = 1) :
    triadLaw.map (Prod.map R (Prod.map R R)) = triadLaw :=
  triad_law_invariant R (preservesCross_of_det_one R hdet)

example : LinearMap.det ((LinearIsometryEquiv.refl ℝ E3).toLinearEquiv : E3 →ₗ[ℝ] E3) = 1 :=
  LinearMap.det_id

/-! ### the sampled double-couple / CLVD tensors -/

/-- what the induced action is: the tensor of `conj6 A v` is `A M Aᵀ` for `M` the tensor of `v`
    (`symMat` is the full symmetric 3×3 matrix of a `Sym3`) -/
theorem conj6_spec (A : Matrix (Fin 3) (Fin 3) ℝ) (v : V6 ℝ) :
    symMat (mt6ToMt33 (conj6 A v)) = A * symMat (mt6ToMt33 v) * A.transpose := by
  rw [mt6ToMt33_conj6, symMat_conjSym]

/-- rotating both Gaussian draws by a proper rotation `R` conjugates the sampled tensor,
    `M ↦ R M Rᵀ`; `conj6 A v` is the six-vector of `A M Aᵀ` where `M` is the tensor of `v`,
    and `matE3 R` is the matrix of `R` in the standard basis -/
theorem randomType_equivariant (R : E3 ≃ₗᵢ[ℝ] E3) (hR : PreservesCross R) (diag a x : V3 ℝ) :
    randomType diag (actV3 R a) (actV3 R x) = conj6 (matE3 R) (randomType diag a x) := by
  rw [randomType_eq, randomType_eq, triad_equivariant R hR, eigvecsToMt6_actV3]

/-- law of the sampled tensor (eigenvalue pattern `diag`, e.g. `dcDiag` or `clvdDiag u`) when the
    two raw three-vectors are independent standard Gaussian three-vectors;
    `randomTypeE diag p = toE6 (randomType diag (ofE3 p.1) (ofE3 p.2))` -/
noncomputable def randomTypeLaw (diag : V3 ℝ) : Measure E6 :=
  ((stdGaussian E3).prod (stdGaussian E3)).map (randomTypeE diag)

/-- the law of the sampled tensor of a fixed type is invariant under the induced action
    `M ↦ R M Rᵀ` of every proper rotation; `conjE6 R x = toE6 (conj6 (matE3 R) (ofE6 x))` -/
theorem randomType_law_invariant (R : E3 ≃ₗᵢ[ℝ] E3) (hR : PreservesCross R) (diag : V3 ℝ) :
    (randomTypeLaw diag).map (conjE6 R) = randomTypeLaw diag :=
  have hRm : Measurable R := R.continuous.measurable
  map_invariant_of_equivariant (measurable_randomTypeE diag) (hRm.prodMap hRm) (measurable_conjE6 R)
    (stdGaussian_prod_map R) fun p => by
      show toE6 (conj6 (matE3 R) (ofE6 (toE6 (randomType diag (ofE3 p.1) (ofE3 p.2)))))
        = toE6 (randomType diag (ofE3 (R p.1)) (ofE3 (R p.2)))
      rw [ofE6_toE6, ← actV3_ofE3, ← actV3_ofE3, randomType_equivariant R hR]

theorem randomType_law_invariant_of_det_one (R : E3 ≃ₗᵢ[ℝ] E3)
    (hdet : LinearMap.det (R.toLinearEquiv : E3 →ₗ[ℝ] E3) = 1) (diag : V3 ℝ) :
    (randomTypeLaw diag).map (conjE6 R) = randomTypeLaw diag :=
  randomType_law_invariant R (preservesCross_of_det_one R hdet) diag

example : (randomTypeLaw (dcDiag : V3 ℝ)).map (conjE6 (LinearIsometryEquiv.refl ℝ E3))
    = randomTypeLaw dcDiag :=
  randomType_law_invariant _ preservesCross_refl _

/-! ### almost surely the samples are orthonormal frames / unit tensors -/

/-- almost surely (two independent standard Gaussian three-vectors) the random triad is an
    orthonormal frame — in the model's own terms -/
theorem triad_ae_orthonormal :
    ∀ᵐ p ∂((stdGaussian E3).prod (stdGaussian E3)),
      let t := triad (ofE3 p.1) (ofE3 p.2)
      V3.dot t.1 t.1 = 1 ∧ V3.dot t.2.1 t.2.1 = 1 ∧ V3.dot t.2.2 t.2.2 = 1 ∧
        V3.dot t.1 t.2.1 = 0 ∧ V3.dot t.1 t.2.2 = 0 ∧ V3.dot t.2.1 t.2.2 = 0 := by
  filter_upwards [ae_not_degenerate] with p hp
  have ha : V3.dot (ofE3 p.1) (ofE3 p.1) ≠ 0 := by
    rw [dot_self_ne_zero_iff, toE3_ofE3]; exact hp.1
  have hx : V3.dot (V3.cross (ofE3 p.1).unit (ofE3 p.2)) (V3.cross (ofE3 p.1).unit (ofE3 p.2)) ≠ 0 := by
    rw [dot_self_ne_zero_iff, toE3_cross, toE3_unit, toE3_ofE3, toE3_ofE3]; exact hp.2
  exact triad_orthonormal (ofE3 p.1) (ofE3 p.2) ha hx

/-- the same in Mathlib's terms: the three Euclidean vectors form an orthonormal family -/
theorem triadE_ae_orthonormal :
    ∀ᵐ p ∂((stdGaussian E3).prod (stdGaussian E3)),
      Orthonormal ℝ ![(triadE p).1, (triadE p).2.1, (triadE p).2.2] := by
  filter_upwards [triad_ae_orthonormal] with p hp
  obtain ⟨h1, h2, h3, h4, h5, h6⟩ := hp
  rw [dot_eq_inner] at h1 h2 h3 h4 h5 h6
  rw [orthonormal_iff_ite]
  intro i j
  fin_cases i <;> fin_cases j
  · exact h1
  · exact h4
  · exact h5
  · exact (real_inner_comm _ _).trans h4
  · exact h2
  · exact h6
  · exact (real_inner_comm _ _).trans h5
  · exact (real_inner_comm _ _).trans h6
  · exact h3

/-- the law of the sampled tensor of a fixed type with unit eigenvalue pattern is carried by the
    unit sphere of six-space -/
theorem randomType_law_on_sphere (diag : V3 ℝ) (hd : diag.x^2 + diag.y^2 + diag.z^2 = 1) :
    randomTypeLaw diag (Metric.sphere (0 : E6) 1)ᶜ = 0 :=
  map_compl_null (measurable_randomTypeE diag) Metric.isClosed_sphere.measurableSet <| by
    filter_upwards [triad_ae_orthonormal] with p ⟨h1, h2, h3, h4, h5, h6⟩
    have hu := eigvecs_unit diag _ _ _ h1 h2 h3 h4 h5 h6 hd
    rw [mem_sphere_iff_norm, sub_zero, randomTypeE, norm_toE6, v6_norm_eq, randomType_eq,
      ← sq6_eq_sqs, hu, Real.sqrt_one]

example : randomTypeLaw (dcDiag : V3 ℝ) (Metric.sphere (0 : E6) 1)ᶜ = 0 :=
  randomType_law_on_sphere _ dc_pattern.1

end MTfitVerif.C08
