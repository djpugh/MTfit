import MTfitVerif.Real.EvidenceLemmas
import MTfitVerif.Props.C04
/-
  C10 — evidence, model probabilities and divergences obey their defining identities.
-/
namespace MTfitVerif.C10
open LogP Evidence

/-- The log evidence denotes the mean likelihood over all `n` tried samples (the stored list
    holds the non-zero ones; zero-probability samples count only through `n`). -/
theorem lnBE_eq_log_mean (ls : List (LogP ℝ)) {n : ℝ} (hn : 0 < n) :
    toProb (lnBayesianEvidence ls n) = (ls.map toProb).sum / n := by
  rw [lnBE_eq_lnMargCol, toProb_subC, C04.lnMargCol_exact _ one_pos, Real.exp_log hn, one_mul]

/-- Zero-probability entries change nothing but the count. -/
theorem lnBE_negInf_cons (ls : List (LogP ℝ)) (n : ℝ) :
    lnBayesianEvidence (negInf :: ls) n = lnBayesianEvidence ls n := by
  simp only [lnBayesianEvidence, maxFin, expSum]

/-- Shifting every log-likelihood by `k` shifts the log evidence by `k`. -/
theorem lnBE_shift (ls : List (LogP ℝ)) (n k : ℝ) :
    lnBayesianEvidence (ls.map (shift · k)) n = shift (lnBayesianEvidence ls n) k := by
  rw [lnBE_eq_lnMargCol, lnBE_eq_lnMargCol, C04.lnMargCol_add_const, shift_subC_comm]

/-- The evidence does not depend on sample order. -/
theorem lnBE_perm {l₁ l₂ : List (LogP ℝ)} (h : l₁.Perm l₂) (n : ℝ) :
    lnBayesianEvidence l₁ n = lnBayesianEvidence l₂ n := by
  rw [lnBE_eq_lnMargCol, lnBE_eq_lnMargCol, LogDomain.lnMargCol_perm h]

/-- Closed form of the model probabilities: the softmax of the log evidences. -/
theorem modelProb_eq (es : List ℝ) :
    modelProbabilities es = es.map (fun e => Real.exp e / (es.map Real.exp).sum) := by
  simp only [modelProbabilities, sumL_eq, flt_exp, List.map_map]
  exact List.map_congr_left fun e _ => softmax_shift _ e es

theorem modelProb_pos (es : List ℝ) : ∀ p ∈ modelProbabilities es, 0 < p := by
  intro p hp
  rw [modelProb_eq] at hp
  exact (softmax_mem_pos_le_one hp).1

theorem modelProb_sum_one (es : List ℝ) (hne : es ≠ []) : (modelProbabilities es).sum = 1 := by
  rw [modelProb_eq]; exact softmax_sum_one hne

/-- ratios are `exp` of the evidence difference -/
theorem modelProb_ratio (es : List ℝ) (i j : Nat) (hi : i < es.length) (hj : j < es.length) :
    (modelProbabilities es)[i]! / (modelProbabilities es)[j]! = Real.exp (es[i]! - es[j]!) := by
  rw [modelProb_eq]
  have hpos := sum_exp_pos (List.ne_nil_of_length_pos (Nat.zero_lt_of_lt hi))
  rw [getElem!_pos _ i (by simpa using hi), getElem!_pos _ j (by simpa using hj),
    getElem!_pos es i hi, getElem!_pos es j hj, List.getElem_map, List.getElem_map, Real.exp_sub,
    div_div_div_cancel_right₀ hpos.ne']

theorem modelProb_shift (es : List ℝ) (k : ℝ) :
    modelProbabilities (es.map (· + k)) = modelProbabilities es := by
  rw [modelProb_eq, modelProb_eq, List.map_map, List.map_map]
  apply List.map_congr_left
  intro e _
  have := softmax_shift (-k) e es
  simp only [sub_neg_eq_add] at this
  exact this

/-- normalised sample weights `wᵢ = exp xᵢ / Σ exp xⱼ` over the finite entries -/
noncomputable def weights (lnpdf : List (LogP ℝ)) : List ℝ :=
  (fins lnpdf).map (fun x => Real.exp x / ((fins lnpdf).map Real.exp).sum)

/-- `dkl_estimate = ln N − H(w)` -/
theorem dklEstimate_eq (lnpdf : List (LogP ℝ)) {V N : ℝ} (hV : 0 < V) (hN : 0 < N)
    (hfin : fins lnpdf ≠ []) :
    dklEstimate lnpdf V N = Real.log N + ((weights lnpdf).map (fun w => w * Real.log w)).sum := by
  obtain ⟨m, h⟩ := exists_maxFin_of_fins_ne_nil hfin
  have hS : 0 < ((fins lnpdf).map (fun x => Real.exp (x - m))).sum := by
    rw [sum_exp_sub]; exact mul_pos (Real.exp_pos _) (sum_exp_pos hfin)
  unfold dklEstimate weights
  simp only [h, sumL_eq, flt_log, List.map_map, List.zip_map']
  simp only [Function.comp_def, flt_exp]
  -- term by term: `dklEstimate_pointwise`, then the weights are the softmax of the unshifted values
  refine (List.sum_map_mul_right _ _ _).symm.trans ?_
  simp only [dklEstimate_pointwise hS hV hN, softmax_shift]
  rw [List.sum_map_add, List.sum_map_mul_left, softmax_sum_one hfin, mul_one, add_comm]

theorem dklEstimate_le_log (lnpdf : List (LogP ℝ)) {V N : ℝ} (hV : 0 < V) (hN : 0 < N)
    (hfin : fins lnpdf ≠ []) : dklEstimate lnpdf V N ≤ Real.log N := by
  rw [dklEstimate_eq lnpdf hV hN hfin]
  exact add_le_of_nonpos_right (sum_mul_log_nonpos _ fun w hw => softmax_mem_pos_le_one hw)

/-- non-negative whenever the number of non-zero samples does not exceed the total count -/
theorem dklEstimate_nonneg (lnpdf : List (LogP ℝ)) {V N : ℝ} (hV : 0 < V) (hN : 0 < N)
    (hfin : fins lnpdf ≠ []) (hcount : ((fins lnpdf).length : ℝ) ≤ N) :
    0 ≤ dklEstimate lnpdf V N := by
  rw [dklEstimate_eq lnpdf hV hN hfin]
  have hg := gibbs_uniform hN (weights lnpdf) (fun w hw => (softmax_mem_pos_le_one hw).1)
  rw [show (weights lnpdf).sum = 1 from softmax_sum_one hfin, mul_one,
    show (weights lnpdf).length = (fins lnpdf).length from List.length_map _, add_comm] at hg
  exact (sub_nonneg.2 ((div_le_one hN).2 hcount)).trans hg

-- (`hdV` is not needed by the proof)
set_option linter.unusedVariables false in
/-- divergence of a sampled pdf from itself is zero -/
theorem dkl_self (p : List (LogP ℝ)) {dV : ℝ} (hdV : 0 < dV) (hfin : fins p ≠ []) :
    dkl (p.map (fun x => (x, x))) dV = some 0 := by
  obtain ⟨m, h⟩ := exists_maxFin_of_fins_ne_nil hfin
  have h1 : (p.map (fun x => (x, x))).map (·.1) = p := by simp [Function.comp_def]
  have h2 : (p.map (fun x => (x, x))).map (·.2) = p := by simp [Function.comp_def]
  rw [dkl_eq_of_maxFin dV (by rw [h1]; exact h) (by rw [h2]; exact h), h1, h2, dklTerm_self]
  simp

/-- divergence between two sampled pdfs is non-negative (Gibbs) -/
theorem dkl_nonneg (pq : List (LogP ℝ × LogP ℝ)) {dV d : ℝ} (hdV : 0 < dV)
    (h : dkl pq dV = some d) : 0 ≤ d := by
  obtain ⟨mp, mq, hp, hq⟩ := dkl_some_maxFin h
  rw [dkl_eq_of_maxFin dV hp hq, Option.map_eq_some_iff] at h
  obtain ⟨ts, hts, rfl⟩ := h
  have hSp := expSum_pos hp
  have hSq := expSum_pos hq
  have hge := dklTerm_sum_ge (mul_pos hSp hdV) (mul_pos hSq hdV) pq ts hts
  rw [div_mul_cancel_left₀ hSp.ne', div_mul_cancel_left₀ hSq.ne', sub_self] at hge
  exact mul_nonneg hge hdV.le

end MTfitVerif.C10
