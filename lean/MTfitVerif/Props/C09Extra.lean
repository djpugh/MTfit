import MTfitVerif.Props.C09
/-
  C09 — further property theorems, corollaries of the refinement theorem `history_refines`:
  a history can be cut anywhere (what was stored before the cut is a prefix of what is stored
  after it), batches without a non-zero candidate only advance the tried count, and the
  selection used by `output` never invents or reorders entries.
-/
namespace MTfitVerif.C09
open LogP SampleStore

/-- the store reached by a history -/
noncomputable def run (init : Nat) (hist : List (List (Cand ℝ) × Nat)) : Store ℝ :=
  hist.foldl (fun s b => append s b.1 b.2) (empty init : Store ℝ)

/-- the samples a history should leave in the store -/
def spec (hist : List (List (Cand ℝ) × Nat)) : List (Nat × List (LogP ℝ) × Nat) :=
  hist.flatMap fun b => (b.1.filter nonzero).map fun c => (c.tok, c.col, c.sf)

theorem _root_.MTfitVerif.SampleStore.spec_append (h₁ h₂ : List (List (Cand ℝ) × Nat)) :
    spec (h₁ ++ h₂) = spec h₁ ++ spec h₂ := List.flatMap_append

theorem _root_.MTfitVerif.SampleStore.spec_cons (b : List (Cand ℝ) × Nat)
    (hs : List (List (Cand ℝ) × Nat)) :
    spec (b :: hs) = ((b.1.filter nonzero).map fun c => (c.tok, c.col, c.sf)) ++ spec hs :=
  List.flatMap_cons

theorem view_run {init : Nat} (h : 0 < init) (hist : List (List (Cand ℝ) × Nat)) :
    view (run init hist) = spec hist := (history_refines h hist).2.1

theorem tried_run {init : Nat} (h : 0 < init) (hist : List (List (Cand ℝ) × Nat)) :
    (run init hist).n = (hist.map (·.2)).sum := (history_refines h hist).2.2

/-- cutting a history: the store after `h₁ ++ h₂` holds what it held after `h₁`, followed by
    the non-zero candidates of `h₂` — whatever re-allocation happened in between -/
theorem history_concat {init : Nat} (h : 0 < init) (h₁ h₂ : List (List (Cand ℝ) × Nat)) :
    view (run init (h₁ ++ h₂)) = view (run init h₁) ++ spec h₂ := by
  rw [view_run h, view_run h, spec_append]

/-- earlier samples are never lost, moved or rewritten by later batches -/
theorem history_prefix {init : Nat} (h : 0 < init) (h₁ h₂ : List (List (Cand ℝ) × Nat)) :
    view (run init h₁) <+: view (run init (h₁ ++ h₂)) :=
  ⟨spec h₂, (history_concat h h₁ h₂).symm⟩

/-- a batch whose candidates all have zero probability leaves the stored samples alone -/
theorem zero_batch_view {init : Nat} (h : 0 < init) (h₁ h₂ : List (List (Cand ℝ) × Nat))
    (b : List (Cand ℝ)) (k : Nat) (hz : ∀ c ∈ b, nonzero c = false) :
    view (run init (h₁ ++ (b, k) :: h₂)) = view (run init (h₁ ++ h₂)) := by
  rw [view_run h, view_run h, spec_append, spec_append, spec_cons, filter_nonzero_eq_nil hz]
  rfl

/-- a batch of zero-probability candidates is still counted among the tried samples -/
theorem zero_batch_tried {init : Nat} (h : 0 < init) (h₁ h₂ : List (List (Cand ℝ) × Nat))
    (b : List (Cand ℝ)) (k : Nat) :
    (run init (h₁ ++ (b, k) :: h₂)).n = (run init (h₁ ++ h₂)).n + k := by
  rw [tried_run h, tried_run h]
  simp only [List.map_append, List.map_cons, List.sum_append, List.sum_cons]
  omega

/-- the tried count never decreases along a history -/
theorem tried_mono {init : Nat} (h : 0 < init) (h₁ h₂ : List (List (Cand ℝ) × Nat)) :
    (run init h₁).n ≤ (run init (h₁ ++ h₂)).n := by
  rw [tried_run h, tried_run h, List.map_append, List.sum_append]
  exact Nat.le_add_right _ _

/-- the selection of `output` is a sub-list: it keeps order and invents nothing -/
theorem selectBy_sublist {β : Type} (l : List β) (keep : List Bool) :
    (selectBy l keep).Sublist l := by
  induction l generalizing keep with
  | nil => simp
  | cons x xs ih =>
    cases keep with
    | nil => simp
    | cons k ks =>
      cases k
      · rw [selectBy_cons_false]; exact (ih ks).cons x
      · rw [selectBy_cons_true]; exact (ih ks).cons_cons x

/-- keeping everything returns the list itself -/
theorem selectBy_all {β : Type} (l : List β) :
    selectBy l (l.map fun _ => true) = l :=
  selectBy_eq_self l _ (List.length_map _).symm fun b hb => by
    obtain ⟨_, _, rfl⟩ := List.mem_map.mp hb; rfl

/-- `spec` of a two-batch history: the zero candidate of the first batch is left out -/
example : spec [([⟨1, [fin 0, negInf], 1⟩, ⟨2, [negInf, negInf], 1⟩], 2), ([⟨3, [fin (-5)], 1⟩], 1)]
    = [(1, [fin 0, negInf], 1), (3, [fin (-5)], 1)] := rfl

end MTfitVerif.C09
