import MTfitVerif.Real.PyxLoopLemmas
/-
  C20 — the translated station loops of the compiled likelihood kernels (`Id.run do` blocks of `Model/PyxKernels.lean`)
  compute the loop-free specification of `Model/PyxSpec.lean`, for every scalar type.
-/
namespace MTfitVerif.C20
open MTfitVerif.PyxSpec MTfitVerif.PyxLoop
variable {α : Type} [Add α] [Sub α] [Mul α] [Div α] [Neg α] [Flt α]

/-! ### the station loops (nested `for` with an early `return`) -/

/-- the manual-polarity station loop adds the station terms `log pol_pdf(Σ_k a[u,v,k]·mt[k,w], …)` to cell
    `index`, stopping after the first station at which the cell reads `-inf`.  No hypothesis on `index`: out of bounds both
    sides are `lnP`. -/
theorem station_polarity_ln_pdf_eq (a mt lnP sigma ipp : Array α) (ipmax v umax vmax kmax wmax w index : Nat) :
    Pyx.cprobability.station_polarity_ln_pdf a mt lnP sigma ipp ipmax v umax vmax kmax wmax w index
      = lnP.setIfInBounds index
          (accumulate (polTerm a mt sigma ipp ipmax v vmax kmax wmax w) umax 0 (lnP.getD index (c 0))) := by
  unfold Pyx.cprobability.station_polarity_ln_pdf
  refine forIn_station_below rfl ?_ _ _ _ (fun _ _ _ => rfl) fun _ _ => rfl
  intro u _ o P r
  by_cases hip : (ipmax == 1) = true <;>
    simp only [hip, ↓reduceIte, Bool.false_eq_true, forIn_range_yield, pure_bind, ksum1, amp_fold, polTerm, negInf] <;>
    exact ⟨_, rfl⟩

/-- the same as `station_polarity_ln_pdf_eq` for the polarity-probability station loop -/
theorem station_polarity_probability_ln_pdf_eq (a mt lnP pos neg ipp : Array α)
    (ipmax v umax vmax kmax wmax w index : Nat) :
    Pyx.cprobability.station_polarity_probability_ln_pdf a mt lnP pos neg ipp ipmax v umax vmax kmax wmax w index
      = lnP.setIfInBounds index
          (accumulate (polProbTerm a mt pos neg ipp ipmax v vmax kmax wmax w) umax 0 (lnP.getD index (c 0))) := by
  unfold Pyx.cprobability.station_polarity_probability_ln_pdf
  refine forIn_station_below rfl ?_ _ _ _ (fun _ _ _ => rfl) fun _ _ => rfl
  intro u _ o P r
  by_cases hip : (ipmax == 1) = true <;>
    simp only [hip, ↓reduceIte, Bool.false_eq_true, forIn_range_yield, pure_bind, ksum1, amp_fold, polProbTerm, negInf] <;>
    exact ⟨_, rfl⟩

/-- the same as `station_polarity_ln_pdf_eq` for the amplitude-ratio station loop (two inner accumulators) -/
theorem station_ar_ln_pdf_eq (ax ay mt lnP z psx psy : Array α) (v umax vmax kmax wmax w index : Nat) :
    Pyx.cprobability.station_ar_ln_pdf ax ay mt lnP z psx psy v umax vmax kmax wmax w index
      = lnP.setIfInBounds index
          (accumulate (arTerm ax ay mt z psx psy v vmax kmax wmax w) umax 0 (lnP.getD index (c 0))) := by
  unfold Pyx.cprobability.station_ar_ln_pdf
  refine forIn_station_below rfl ?_ _ _ _ (fun _ _ _ => rfl) fun _ _ => rfl
  intro u _ o P r
  simp only [forIn_range_yield, pure_bind, ksum2, amp_fold, arTerm, negInf]
  exact ⟨_, rfl⟩

/-! ### the kernels that call the station loops, un-marginalised (`marginalised = 0`)

  `…_unmarginalised`: both results of the kernel — every cell `[v, w]` overwritten (in the code's order) with the station loop's
  value, the location-sample buffer untouched; `…_eq_unmarginalised`: one cell of the first result. -/

/-- value of cell `[v, w]` after the manual-polarity kernel -/
def polCell (a_arr mt sigma_arr ipp lsm : Array α) (ipmax umax vmax kmax wmax v w : Nat) : α :=
  accumulate (polTerm a_arr mt sigma_arr ipp ipmax v vmax kmax wmax w) umax 0 (lsm.getD v (c 0))

theorem c_polarity_ln_pdf_unmarginalised (ln_P a_arr mt sigma_arr ipp lpls lsm : Array α)
    (umax vmax kmax mt_s0 wmax sigma_s0 ipmax : Nat) :
    Pyx.cprobability.c_polarity_ln_pdf ln_P a_arr umax vmax kmax mt mt_s0 wmax sigma_arr sigma_s0 ipp ipmax 0 lpls lsm
      = (fillCells (polCell a_arr mt sigma_arr ipp lsm ipmax umax vmax kmax wmax) vmax wmax ln_P, lpls) := by
  unfold Pyx.cprobability.c_polarity_ln_pdf
  simp only [Nat.lt_irrefl, gt_iff_lt, decide_false, Bool.false_eq_true, ↓reduceIte, forIn_range_yield,
    bind_pure_comp, map_pure, Id.run_pure, station_polarity_ln_pdf_eq, set_set_accumulate]
  exact fill_loop (polCell a_arr mt sigma_arr ipp lsm ipmax umax vmax kmax wmax) vmax wmax
    Prod.fst (fun s => Prod.fst (Prod.snd s)) Prod.fst (by intros; exact ⟨rfl, rfl⟩) (by intros; rfl) (by intros; rfl) _

/-- with `marginalised = 0` and room for the `vmax × wmax` cells, cell `[v, w]` of the first result of the
    manual-polarity kernel is the station loop's value started from the location-sample multiplier.  (The size parameters
    of the kernel are named after what the code copies them into: `umax = a_arr_s0`, `vmax = a_arr_s1`, `kmax = a_arr_s2`,
    `wmax = mt_s1`, `ipmax = incorrect_polarity_prob_arr_s0`.) -/
theorem c_polarity_ln_pdf_eq_unmarginalised (ln_P a_arr mt sigma_arr ipp lpls lsm : Array α)
    (umax vmax kmax mt_s0 wmax sigma_s0 ipmax : Nat) (hsize : vmax * wmax ≤ ln_P.size)
    {v w : Nat} (hv : v < vmax) (hw : w < wmax) :
    (Pyx.cprobability.c_polarity_ln_pdf ln_P a_arr umax vmax kmax mt mt_s0 wmax sigma_arr sigma_s0 ipp ipmax 0
        lpls lsm).1.getD (v * wmax + w) (c 0)
      = accumulate (polTerm a_arr mt sigma_arr ipp ipmax v vmax kmax wmax w) umax 0 (lsm.getD v (c 0)) := by
  rw [c_polarity_ln_pdf_unmarginalised]
  exact getD_fillCells _ vmax wmax ln_P (c 0) hsize hv hw

/-- value of cell `[v, w]` after the polarity-probability kernel -/
def polProbCell (a_arr mt pos neg ipp lsm : Array α) (ipmax umax vmax kmax wmax v w : Nat) : α :=
  accumulate (polProbTerm a_arr mt pos neg ipp ipmax v vmax kmax wmax w) umax 0 (lsm.getD v (c 0))

theorem c_polarity_probability_ln_pdf_unmarginalised (ln_P a_arr mt pos neg ipp lpls lsm : Array α)
    (umax vmax kmax mt_s0 wmax pos_s0 neg_s0 ipmax : Nat) :
    Pyx.cprobability.c_polarity_probability_ln_pdf ln_P a_arr umax vmax kmax mt mt_s0 wmax pos pos_s0 neg neg_s0 ipp ipmax
        0 lpls lsm
      = (fillCells (polProbCell a_arr mt pos neg ipp lsm ipmax umax vmax kmax wmax) vmax wmax ln_P, lpls) := by
  unfold Pyx.cprobability.c_polarity_probability_ln_pdf
  simp only [Nat.lt_irrefl, gt_iff_lt, decide_false, Bool.false_eq_true, ↓reduceIte, forIn_range_yield,
    bind_pure_comp, map_pure, Id.run_pure, station_polarity_probability_ln_pdf_eq, set_set_accumulate]
  exact fill_loop (polProbCell a_arr mt pos neg ipp lsm ipmax umax vmax kmax wmax) vmax wmax
    Prod.fst (fun s => Prod.fst (Prod.snd s)) Prod.fst (by intros; exact ⟨rfl, rfl⟩) (by intros; rfl) (by intros; rfl) _

theorem c_polarity_probability_ln_pdf_eq_unmarginalised (ln_P a_arr mt pos neg ipp lpls lsm : Array α)
    (umax vmax kmax mt_s0 wmax pos_s0 neg_s0 ipmax : Nat) (hsize : vmax * wmax ≤ ln_P.size)
    {v w : Nat} (hv : v < vmax) (hw : w < wmax) :
    (Pyx.cprobability.c_polarity_probability_ln_pdf ln_P a_arr umax vmax kmax mt mt_s0 wmax pos pos_s0 neg neg_s0 ipp
        ipmax 0 lpls lsm).1.getD (v * wmax + w) (c 0)
      = accumulate (polProbTerm a_arr mt pos neg ipp ipmax v vmax kmax wmax w) umax 0 (lsm.getD v (c 0)) := by
  rw [c_polarity_probability_ln_pdf_unmarginalised]
  exact getD_fillCells _ vmax wmax ln_P (c 0) hsize hv hw

/-- value of cell `[v, w]` after the amplitude-ratio kernel -/
def arCell (ax ay mt z psx psy lsm : Array α) (umax vmax kmax wmax v w : Nat) : α :=
  accumulate (arTerm ax ay mt z psx psy v vmax kmax wmax w) umax 0 (lsm.getD v (c 0))

theorem c_amplitude_ratio_ln_pdf_unmarginalised (ln_P z mt ax ay psx psy lpls lsm : Array α)
    (z_s0 mt_s0 wmax umax vmax kmax ay_s0 ay_s1 ay_s2 psx_s0 psy_s0 : Nat) :
    Pyx.cprobability.c_amplitude_ratio_ln_pdf ln_P z z_s0 mt mt_s0 wmax ax umax vmax kmax ay ay_s0 ay_s1 ay_s2
        psx psx_s0 psy psy_s0 0 lpls lsm
      = (fillCells (arCell ax ay mt z psx psy lsm umax vmax kmax wmax) vmax wmax ln_P, lpls) := by
  unfold Pyx.cprobability.c_amplitude_ratio_ln_pdf
  simp only [Nat.lt_irrefl, gt_iff_lt, decide_false, Bool.false_eq_true, ↓reduceIte, forIn_range_yield,
    bind_pure_comp, map_pure, Id.run_pure, station_ar_ln_pdf_eq, set_set_accumulate]
  exact fill_loop (arCell ax ay mt z psx psy lsm umax vmax kmax wmax) vmax wmax
    Prod.fst (fun s => Prod.fst (Prod.snd s)) Prod.fst (by intros; exact ⟨rfl, rfl⟩) (by intros; rfl) (by intros; rfl) _

theorem c_amplitude_ratio_ln_pdf_eq_unmarginalised (ln_P z mt ax ay psx psy lpls lsm : Array α)
    (z_s0 mt_s0 wmax umax vmax kmax ay_s0 ay_s1 ay_s2 psx_s0 psy_s0 : Nat) (hsize : vmax * wmax ≤ ln_P.size)
    {v w : Nat} (hv : v < vmax) (hw : w < wmax) :
    (Pyx.cprobability.c_amplitude_ratio_ln_pdf ln_P z z_s0 mt mt_s0 wmax ax umax vmax kmax ay ay_s0 ay_s1 ay_s2
        psx psx_s0 psy psy_s0 0 lpls lsm).1.getD (v * wmax + w) (c 0)
      = accumulate (arTerm ax ay mt z psx psy v vmax kmax wmax w) umax 0 (lsm.getD v (c 0)) := by
  rw [c_amplitude_ratio_ln_pdf_unmarginalised]
  exact getD_fillCells _ vmax wmax ln_P (c 0) hsize hv hw

/-! ### the kernels that call the station loops, marginalised over the location samples (`marginalised > 0`)

  `…_marginalised`: the first result of the kernel, as a fold that writes cell `w` for `w = 0, …, wmax - 1` (the second result, the
  location-sample buffer after the last `w`, has no statement); `…_eq_marginalised`: one cell of it. -/

theorem c_polarity_ln_pdf_marginalised (ln_P a_arr mt sigma_arr ipp lpls lsm : Array α)
    (umax vmax kmax mt_s0 wmax sigma_s0 ipmax marg : Nat) (hm : 0 < marg) (hL : vmax ≤ lpls.size) :
    (Pyx.cprobability.c_polarity_ln_pdf ln_P a_arr umax vmax kmax mt mt_s0 wmax sigma_arr sigma_s0 ipp ipmax marg lpls lsm).1
      = (List.range wmax).foldl (fun (P : Array α) w => P.setIfInBounds w
          (margCell (fun v => polCell a_arr mt sigma_arr ipp lsm ipmax umax vmax kmax wmax v w) vmax)) ln_P := by
  unfold Pyx.cprobability.c_polarity_ln_pdf
  simp only [hm, decide_true, ↓reduceIte, Id.run_bind, Id.run_pure, station_polarity_ln_pdf_eq, set_set_accumulate]
  exact marg_loop (polCell a_arr mt sigma_arr ipp lsm ipmax umax vmax kmax wmax) vmax wmax
    Prod.fst (fun s => Prod.fst (Prod.snd s)) Prod.fst (fun s => Prod.fst (Prod.snd s)) Prod.fst
    (by intros; rfl) (by intros; exact ⟨rfl, rfl, rfl, rfl⟩) (by intros; exact ⟨rfl, rfl⟩) (by intros; exact ⟨rfl, rfl⟩)
    (by intros; rfl) (by intros; rfl) _ hL

/-- with `marginalised > 0`, room for `vmax` location samples in the buffer and for `wmax` cells in `ln_P`,
    cell `w` of the first result is `log (Σ_v exp (x_v - m)) + m` with `x_v` the station loop's value for location sample `v`
    and `m` their running `fmax` from `-inf`, or `-inf` when `m` is not `> -inf` (`PyxLoop.margCell`). -/
theorem c_polarity_ln_pdf_eq_marginalised (ln_P a_arr mt sigma_arr ipp lpls lsm : Array α)
    (umax vmax kmax mt_s0 wmax sigma_s0 ipmax marg : Nat) (hm : 0 < marg) (hL : vmax ≤ lpls.size) (hP : wmax ≤ ln_P.size)
    {w : Nat} (hw : w < wmax) :
    (Pyx.cprobability.c_polarity_ln_pdf ln_P a_arr umax vmax kmax mt mt_s0 wmax sigma_arr sigma_s0 ipp ipmax marg lpls lsm).1.getD w (c 0)
      = margCell (fun v => accumulate (polTerm a_arr mt sigma_arr ipp ipmax v vmax kmax wmax w) umax 0 (lsm.getD v (c 0))) vmax := by
  rw [c_polarity_ln_pdf_marginalised (hm := hm) (hL := hL)]
  exact getD_foldl_set_self _ wmax ln_P (c 0) hP hw

theorem c_polarity_probability_ln_pdf_marginalised (ln_P a_arr mt pos neg ipp lpls lsm : Array α)
    (umax vmax kmax mt_s0 wmax pos_s0 neg_s0 ipmax marg : Nat) (hm : 0 < marg) (hL : vmax ≤ lpls.size) :
    (Pyx.cprobability.c_polarity_probability_ln_pdf ln_P a_arr umax vmax kmax mt mt_s0 wmax pos pos_s0 neg neg_s0 ipp ipmax marg lpls lsm).1
      = (List.range wmax).foldl (fun (P : Array α) w => P.setIfInBounds w
          (margCell (fun v => polProbCell a_arr mt pos neg ipp lsm ipmax umax vmax kmax wmax v w) vmax)) ln_P := by
  unfold Pyx.cprobability.c_polarity_probability_ln_pdf
  simp only [hm, decide_true, ↓reduceIte, Id.run_bind, Id.run_pure, station_polarity_probability_ln_pdf_eq,
    set_set_accumulate]
  exact marg_loop (polProbCell a_arr mt pos neg ipp lsm ipmax umax vmax kmax wmax) vmax wmax
    Prod.fst (fun s => Prod.fst (Prod.snd s)) Prod.fst (fun s => Prod.snd (Prod.snd s)) Prod.fst
    (by intros; rfl) (by intros; exact ⟨rfl, rfl, rfl, rfl⟩) (by intros; exact ⟨rfl, rfl⟩) (by intros; exact ⟨rfl, rfl⟩)
    (by intros; rfl) (by intros; rfl) _ hL

/-- with `marginalised > 0`, room for `vmax` location samples in the buffer and for `wmax` cells in `ln_P`,
    cell `w` of the first result is `log (Σ_v exp (x_v - m)) + m` with `x_v` the station loop's value for location sample `v`
    and `m` their running `fmax` from `-inf`, or `-inf` when `m` is not `> -inf` (`PyxLoop.margCell`). -/
theorem c_polarity_probability_ln_pdf_eq_marginalised (ln_P a_arr mt pos neg ipp lpls lsm : Array α)
    (umax vmax kmax mt_s0 wmax pos_s0 neg_s0 ipmax marg : Nat) (hm : 0 < marg) (hL : vmax ≤ lpls.size) (hP : wmax ≤ ln_P.size)
    {w : Nat} (hw : w < wmax) :
    (Pyx.cprobability.c_polarity_probability_ln_pdf ln_P a_arr umax vmax kmax mt mt_s0 wmax pos pos_s0 neg neg_s0 ipp ipmax marg lpls lsm).1.getD w (c 0)
      = margCell (fun v => accumulate (polProbTerm a_arr mt pos neg ipp ipmax v vmax kmax wmax w) umax 0 (lsm.getD v (c 0))) vmax := by
  rw [c_polarity_probability_ln_pdf_marginalised (hm := hm) (hL := hL)]
  exact getD_foldl_set_self _ wmax ln_P (c 0) hP hw

theorem c_amplitude_ratio_ln_pdf_marginalised (ln_P z mt ax ay psx psy lpls lsm : Array α)
    (z_s0 mt_s0 wmax umax vmax kmax ay_s0 ay_s1 ay_s2 psx_s0 psy_s0 marg : Nat) (hm : 0 < marg) (hL : vmax ≤ lpls.size) :
    (Pyx.cprobability.c_amplitude_ratio_ln_pdf ln_P z z_s0 mt mt_s0 wmax ax umax vmax kmax ay ay_s0 ay_s1 ay_s2 psx psx_s0 psy psy_s0 marg lpls lsm).1
      = (List.range wmax).foldl (fun (P : Array α) w => P.setIfInBounds w
          (margCell (fun v => arCell ax ay mt z psx psy lsm umax vmax kmax wmax v w) vmax)) ln_P := by
  unfold Pyx.cprobability.c_amplitude_ratio_ln_pdf
  simp only [hm, decide_true, ↓reduceIte, Id.run_bind, Id.run_pure, station_ar_ln_pdf_eq, set_set_accumulate]
  exact marg_loop (arCell ax ay mt z psx psy lsm umax vmax kmax wmax) vmax wmax
    Prod.fst (fun s => Prod.fst (Prod.snd s)) Prod.fst (fun s => Prod.snd (Prod.snd s)) Prod.fst
    (by intros; rfl) (by intros; exact ⟨rfl, rfl, rfl, rfl⟩) (by intros; exact ⟨rfl, rfl⟩) (by intros; exact ⟨rfl, rfl⟩)
    (by intros; rfl) (by intros; rfl) _ hL

/-- with `marginalised > 0`, room for `vmax` location samples in the buffer and for `wmax` cells in `ln_P`,
    cell `w` of the first result is `log (Σ_v exp (x_v - m)) + m` with `x_v` the station loop's value for location sample `v`
    and `m` their running `fmax` from `-inf`, or `-inf` when `m` is not `> -inf` (`PyxLoop.margCell`). -/
theorem c_amplitude_ratio_ln_pdf_eq_marginalised (ln_P z mt ax ay psx psy lpls lsm : Array α)
    (z_s0 mt_s0 wmax umax vmax kmax ay_s0 ay_s1 ay_s2 psx_s0 psy_s0 marg : Nat) (hm : 0 < marg) (hL : vmax ≤ lpls.size) (hP : wmax ≤ ln_P.size)
    {w : Nat} (hw : w < wmax) :
    (Pyx.cprobability.c_amplitude_ratio_ln_pdf ln_P z z_s0 mt mt_s0 wmax ax umax vmax kmax ay ay_s0 ay_s1 ay_s2 psx psx_s0 psy psy_s0 marg lpls lsm).1.getD w (c 0)
      = margCell (fun v => accumulate (arTerm ax ay mt z psx psy v vmax kmax wmax w) umax 0 (lsm.getD v (c 0))) vmax := by
  rw [c_amplitude_ratio_ln_pdf_marginalised (hm := hm) (hL := hL)]
  exact getD_foldl_set_self _ wmax ln_P (c 0) hP hw

/-! ### the theorems apply to the executable `Float` instance -/

example (a mt lnP sigma ipp : Array Float) (ipmax v umax vmax kmax wmax w index : Nat) :
    Pyx.cprobability.station_polarity_ln_pdf a mt lnP sigma ipp ipmax v umax vmax kmax wmax w index
      = lnP.setIfInBounds index
          (accumulate (polTerm a mt sigma ipp ipmax v vmax kmax wmax w) umax 0 (lnP.getD index (c 0))) :=
  station_polarity_ln_pdf_eq a mt lnP sigma ipp ipmax v umax vmax kmax wmax w index

end MTfitVerif.C20
