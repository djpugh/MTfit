import MTfitVerif.Real.LogDomainLemmas
/-
  C04 — log-domain marginalisation and normalisation are exact and stable.
-/
namespace MTfitVerif.C04
open LogP LogDomain

/-- Exactness of one reduced slice: the result denotes `dV · Σ exp`, for a slice of any
    length and any pattern of `-∞` entries. -/
theorem lnMargCol_exact (col : List (LogP ℝ)) {dV : ℝ} (hdV : 0 < dV) :
    toProb (lnMargCol col dV) = dV * (col.map toProb).sum := by
  cases h : maxFin col with
  | none =>
    rw [lnMargCol_of_none dV h, sum_toProb_eq_zero (maxFin_eq_none_iff.1 h), mul_zero]; rfl
  | some m =>
    rw [lnMargCol_of_some dV h, toProb_fin, Real.exp_add, Real.exp_log (shiftedSum_pos hdV h),
      shiftedSum_eq, mul_right_comm, div_mul_cancel₀ _ (Real.exp_pos m).ne', mul_comm]

/-- `-∞` entries are exact zeros: the result is `-∞` iff every entry is. -/
theorem lnMargCol_negInf_iff (col : List (LogP ℝ)) (dV : ℝ) :
    lnMargCol col dV = negInf ↔ ∀ x ∈ col, x = negInf := by
  rw [← maxFin_eq_none_iff]
  unfold lnMargCol; cases maxFin col <;> simp

/-- Marginalisation commutes with adding a constant (exact equality over ℝ). -/
theorem lnMargCol_add_const (col : List (LogP ℝ)) (dV k : ℝ) :
    lnMargCol (col.map (shift · k)) dV = shift (lnMargCol col dV) k := by
  cases h : maxFin col with
  | none =>
    rw [lnMargCol_of_none dV h, lnMargCol_of_none dV (by rw [maxFin_shift, h]; rfl)]; rfl
  | some m =>
    rw [lnMargCol_of_some dV h, lnMargCol_of_some dV (by rw [maxFin_shift, h]; rfl),
      shiftedSum_shift, shift_fin, add_assoc]

/-- Stability: with the shift the model (and the code since 92d0c9b) applies, every argument
    handed to `exp` is `≤ 0` and one of them is exactly `0` (`expArgs` lists these arguments:
    `LogDomain.shiftedSum_eq_expArgs`); hence no `exp` overflows and
    the sum handed to `log` is at least `dV` (no total underflow), whatever the magnitude of
    the log-values. -/
theorem lnMargCol_expArgs_stable {col : List (LogP ℝ)} {m : ℝ} (h : maxFin col = some m) :
    (∀ a ∈ expArgs m col, a ≤ 0) ∧ (0 : ℝ) ∈ expArgs m col := by
  obtain ⟨hmem, hge⟩ := maxFin_eq_some_iff.1 h
  constructor
  · intro a ha
    obtain ⟨v, hv, rfl⟩ := mem_expArgs.mp ha
    exact sub_nonpos.2 (hge v hv)
  · exact mem_expArgs.mpr ⟨m, hmem, (sub_self m).symm⟩

/-- The argument of `log` lies in `[dV, n·dV]`. -/
theorem lnMargCol_logArg_bounds {col : List (LogP ℝ)} {m dV : ℝ} (hdV : 0 < dV)
    (h : maxFin col = some m) :
    dV ≤ shiftedSum m dV col ∧ shiftedSum m dV col ≤ col.length * dV := by
  rw [shiftedSum_eq]
  obtain ⟨h1, h2⟩ := sum_div_exp_maxFin h
  exact ⟨le_mul_of_one_le_left hdV.le h1, mul_le_mul_of_nonneg_right h2 hdV.le⟩

/-- Exactness of `ln_marginalise` over axis 1 (each row), any shape. -/
theorem lnMarginalise_axis1_exact (rows : List (List (LogP ℝ))) (ncols : Nat) {dV : ℝ}
    (hdV : 0 < dV) (hn : ncols ≠ 1) :
    (lnMarginalise rows ncols 1 dV).map toProb
      = rows.map (fun r => dV * (r.map toProb).sum) := by
  simp [lnMarginalise, hn, lnMargCol_exact _ hdV]

-- (`hwf` is not needed by the proof)
set_option linter.unusedVariables false in
/-- Exactness of `ln_marginalise` over axis 0 (each column) for a matrix that is not a single row
    (`lnMarginalise_single_row`): entry `j` of the result denotes `dV · Σᵢ exp m[i][j]`. -/
theorem lnMarginalise_axis0_exact (rows : List (List (LogP ℝ))) (ncols : Nat) {dV : ℝ}
    (hdV : 0 < dV) (hrows : rows.length ≠ 1) (hwf : ∀ r ∈ rows, r.length = ncols)
    (j : Nat) (hj : j < ncols) :
    ((lnMarginalise rows ncols 0 dV)[j]?).map toProb
      = some (dV * ((rows.filterMap (fun r => r[j]?)).map toProb).sum) := by
  have hdef : lnMarginalise rows ncols 0 dV = (columns ncols rows).map (lnMargCol · dV) := by
    unfold lnMarginalise
    match rows, hrows with
    | [], _ => rfl
    | [r], h => simp at h
    | _ :: _ :: _, _ => rfl
  rw [hdef, List.getElem?_map, columns_getElem? ncols rows j hj, Option.map_some, Option.map_some,
    lnMargCol_exact _ hdV]

/-- A single slice along the reduced axis is returned unchanged. -/
theorem lnMarginalise_single_row (r : List (LogP ℝ)) (ncols : Nat) (dV : ℝ) :
    lnMarginalise [r] ncols 0 dV = r := rfl

/-- Normalisation: exponentials times the volume element sum to one whenever some entry is
    finite. -/
theorem lnNormalise_sum_one (xs : List (LogP ℝ)) {dV : ℝ} (hdV : 0 < dV)
    (hfin : ∃ x ∈ xs, isFin x = true) :
    dV * ((lnNormalise xs dV).map toProb).sum = 1 := by
  have hex := lnMargCol_exact xs hdV
  cases hn : lnMargCol xs dV with
  | negInf =>
    obtain ⟨x, hx, hxf⟩ := hfin
    rw [(lnMargCol_negInf_iff xs dV).mp hn x hx] at hxf; cases hxf
  | fin n =>
    rw [hn, toProb_fin] at hex
    rw [lnNormalise_of_fin hn, List.map_map,
      List.map_congr_left (g := fun x => toProb x * (Real.exp n)⁻¹) fun x _ => by
        rw [Function.comp, toProb_subC, div_eq_mul_inv],
      List.sum_map_mul_right, ← mul_assoc, ← hex, mul_inv_cancel₀ (Real.exp_pos n).ne']

/-- Normalisation is unchanged by adding a constant to every log-value. -/
theorem lnNormalise_add_const (xs : List (LogP ℝ)) (dV k : ℝ) :
    lnNormalise (xs.map (shift · k)) dV = lnNormalise xs dV := by
  unfold lnNormalise
  rw [lnMargCol_add_const]
  cases hn : lnMargCol xs dV with
  | negInf =>
    have hall := (lnMargCol_negInf_iff xs dV).mp hn
    simp only [shift_negInf]
    calc xs.map (shift · k) = xs.map id := List.map_congr_left (fun x hx => by rw [hall x hx]; rfl)
      _ = xs := List.map_id _
  | fin n =>
    simp only [shift_fin, List.map_map]
    apply List.map_congr_left
    intro x _
    cases x with
    | negInf => simp
    | fin v => simp

end MTfitVerif.C04
