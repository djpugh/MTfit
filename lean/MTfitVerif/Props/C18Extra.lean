import MTfitVerif.Props.C18
/-
  C18 — further property theorems: binning never adds samples and always retains the first
  one, stray blank lines in a file are ignored by the reader, sub-sampling with every index
  returns the file's records.
-/
namespace MTfitVerif.C18
open Scatangle

/-- binning never increases the number of samples -/
theorem bin_length_le (b : ℝ) (recs : List (Record ℝ × ℝ)) :
    (bin b recs).length ≤ recs.length := by
  have h := (bin_keeps_original_records b recs).length_le
  simpa using h

theorem bin_nil (b : ℝ) : bin b ([] : List (Record ℝ × ℝ)) = [] := by
  rw [bin_eq_binAux, binAux_nil]

/-- the first sample of the file is always retained (with its own stations and angles) -/
theorem bin_head_retained (b : ℝ) (x : Record ℝ × ℝ) (xs : List (Record ℝ × ℝ)) :
    ((bin b (x :: xs)).head?).map (·.1) = some x.1 := by
  rw [bin_eq_binAux]
  cases (if b = 0 then 0 else (x :: xs).length) <;> rfl

/-- a non-empty input never bins to nothing: the total weight has somewhere to go -/
theorem bin_ne_nil (b : ℝ) (x : Record ℝ × ℝ) (xs : List (Record ℝ × ℝ)) :
    bin b (x :: xs) ≠ [] := by
  intro h
  have := bin_head_retained b x xs
  rw [h] at this
  simp at this

/-- a blank line while no block is open changes nothing in the reader's state -/
theorem step_blank_idle (s : PState ℝ) (h : s.cur = []) : step s Line.blank = s := by
  cases s with
  | mk cur mult out =>
    simp only at h
    subst h
    simp [step]

/-- leading blank lines are ignored -/
theorem parse_leading_blank (lines : List (Line ℝ)) :
    parse (Line.blank :: lines) = parse lines := by
  unfold parse
  rw [List.foldl_cons, step_blank_idle _ rfl]

/-- a doubled blank line between blocks reads as one -/
theorem step_blank_twice (s : PState ℝ) :
    step (step s Line.blank) Line.blank = step s Line.blank := by
  apply step_blank_idle
  rw [step]
  split <;> rfl

/-- sub-sampling never returns more records than indices drawn -/
theorem subsample_length_le (recs : List (Record ℝ × ℝ)) (idx : List Nat) :
    (subsample recs idx).length ≤ idx.length :=
  List.length_filterMap_le _ _

/-- drawing every index once, in order, returns the file's records -/
theorem subsample_all (recs : List (Record ℝ × ℝ)) :
    subsample recs (List.range recs.length) = recs := by
  unfold subsample
  induction recs with
  | nil => rfl
  | cons x xs ih =>
    rw [List.length_cons, List.range_succ_eq_map, List.filterMap_cons_some (List.getElem?_cons_zero ..), List.filterMap_map]
    exact congrArg (x :: ·) ih

end MTfitVerif.C18
