import MTfitVerif.Props.C03
import MTfitVerif.Real.RatioIntegralLemmas
/-
  C03 (integral form) — Hinkley's closed form `ratioPdf` equals its defining integral
  `∫ |y| φ(z y; μx, σx) φ(y; μy, σy) dy`, the density of `X/Y` at `z` for independent
  `X ~ N(μx, σx²)`, `Y ~ N(μy, σy²)`.
-/
namespace MTfitVerif.C03
open RatioPdf Real MeasureTheory

/-- density of `N(μ, σ²)` at `x` -/
noncomputable def gaussDensity (x μ σ : ℝ) : ℝ :=
  Real.exp (-(x - μ)^2 / (2 * σ^2)) / (σ * √(2 * π))

/-- factorisation of the integrand after completing the square (`exponent_identity`) -/
theorem integrand_factor (z μx μy : ℝ) {σx σy : ℝ} (hx : 0 < σx) (hy : 0 < σy) (y : ℝ) :
    |y| * gaussDensity (z * y) μx σx * gaussDensity y μy σy
      = (1 / (2 * π * σx * σy))
          * Real.exp (-(coefC μx μy σx σy - coefB z μx μy σx σy ^ 2 / coefA z σx σy ^ 2) / 2)
          * (|y| * Real.exp (-(coefA z σx σy ^ 2
              * (y - coefB z μx μy σx σy / coefA z σx σy ^ 2)^2) / 2)) := by
  rw [gaussDensity, gaussDensity, mul_assoc, div_mul_div_sqrt_two_pi,
    exp_neg_half_mul (exponent_identity z μx μy hx hy y),
    mul_left_comm |y|, mul_left_comm |y|, ← mul_assoc]

-- (`0 < σx`, `0 < σy` are not needed by the proof)
set_option linter.unusedVariables false in
/-- final algebra: the closed form in terms of abstract `a, b, c` -/
theorem closed_form_algebra {a : ℝ} (ha : 0 < a) (b cc : ℝ) {σx σy : ℝ} (hx : 0 < σx) (hy : 0 < σy) :
    b * Real.exp ((b * b - cc * (a * a)) / (2 * (a * a)))
          / (√(2 * π) * (σx * σy * (a * (a * a)))) * erf (b / a / √2)
        + 1 / (π * (σx * σy * (a * a))) * Real.exp (-cc / 2)
      = 1 / (2 * π * σx * σy) * Real.exp (-(cc - b^2 / a^2) / 2)
          * (2 / a^2 * Real.exp (-(a^2 * (b / a^2)^2) / 2)
              + b / a^2 * (√(2 * π) / a) * erf (a * (b / a^2) / √2)) := by
  have ha' : a ≠ 0 := ha.ne'
  have e1 : a * (b / a^2) = b / a := by
    rw [pow_two, mul_div_assoc', mul_div_mul_left _ _ ha']
  rw [e1, d_exponent_eq ha']
  refine closed_form_core Real.sqrt_div_self'.symm ?_ a b _ σx σy
  -- `-c/2 = -(c - b²/a²)/2 + -(a² (b/a²)²)/2`, since `a² (b/a²)² = (a (b/a²))² = (b/a)² = b²/a²`
  rw [← mul_pow, e1, div_pow, ← add_div, ← neg_add, sub_add_cancel]

/-- **Hinkley's closed form is the ratio density**: `ratioPdf z` equals
    `∫ |y| φ(z y; μx, σx) φ(y; μy, σy) dy`. -/
theorem ratioPdf_eq_integral (z μx μy : ℝ) {σx σy : ℝ} (hx : 0 < σx) (hy : 0 < σy) :
    ratioPdf z μx μy σx σy
      = ∫ y : ℝ, |y| * gaussDensity (z * y) μx σx * gaussDensity y μy σy := by
  have ha := coefA_pos z hx hy
  rw [integral_congr_ae (Filter.Eventually.of_forall (integrand_factor z μx μy hx hy)),
    integral_const_mul, RatioInt.integral_abs_mul_gauss ha, ratioPdf_eq, neg_div,
    stdCdf_sub_neg]
  exact closed_form_algebra ha _ _ hx hy

end MTfitVerif.C03
