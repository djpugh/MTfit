import MTfitVerif.Props.C04
/-
  C04 — further property theorems: the `-∞` pattern is preserved exactly by normalisation
  (no probability is turned into zero, no zero into a probability), normalisation is
  idempotent, and a marginal does not depend on the order of the reduced slice.
-/
namespace MTfitVerif.C04
open LogP LogDomain

/-- The probability a log-value denotes determines the log-value. -/
theorem toProb_injective : Function.Injective (toProb : LogP ℝ → ℝ) := by
  intro x y h
  cases x <;> cases y
  · rfl
  · exact absurd h.symm (Real.exp_pos _).ne'
  · exact absurd h (Real.exp_pos _).ne'
  · exact congrArg fin (Real.exp_injective h)

theorem lnNormalise_length (xs : List (LogP ℝ)) (dV : ℝ) :
    (lnNormalise xs dV).length = xs.length := by
  obtain ⟨n, h⟩ := lnNormalise_eq_map_subC xs dV
  rw [h, List.length_map]

/-- Normalisation keeps the `-∞` pattern entry by entry: an exact zero stays an exact zero and
    a finite log-value stays finite, whatever its magnitude. -/
theorem lnNormalise_isFin (xs : List (LogP ℝ)) (dV : ℝ) :
    (lnNormalise xs dV).map isFin = xs.map isFin := by
  obtain ⟨n, h⟩ := lnNormalise_eq_map_subC xs dV
  rw [h, List.map_map]
  exact List.map_congr_left fun x _ => isFin_subC x n

/-- An all-`-∞` input (total probability zero) is returned as it is: no NaN is produced. -/
theorem lnNormalise_all_negInf (xs : List (LogP ℝ)) (dV : ℝ) (h : ∀ x ∈ xs, x = negInf) :
    lnNormalise xs dV = xs :=
  lnNormalise_of_negInf ((lnMargCol_negInf_iff xs dV).mpr h)

/-- The log of the total mass of a normalised pdf is exactly `0`. -/
theorem lnMargCol_lnNormalise (xs : List (LogP ℝ)) {dV : ℝ} (hdV : 0 < dV)
    (hfin : ∃ x ∈ xs, isFin x = true) :
    lnMargCol (lnNormalise xs dV) dV = fin 0 := by
  apply toProb_injective
  rw [lnMargCol_exact _ hdV, lnNormalise_sum_one xs hdV hfin]
  simp

theorem lnNormalise_idempotent (xs : List (LogP ℝ)) {dV : ℝ} (hdV : 0 < dV) :
    lnNormalise (lnNormalise xs dV) dV = lnNormalise xs dV := by
  by_cases hfin : ∃ x ∈ xs, isFin x = true
  · rw [lnNormalise_of_fin (lnMargCol_lnNormalise xs hdV hfin)]
    simp only [subC_zero, List.map_id']
  · have hall : ∀ x ∈ xs, x = negInf := by
      intro x hx
      cases x with
      | negInf => rfl
      | fin v => exact absurd ⟨fin v, hx, rfl⟩ hfin
    rw [lnNormalise_all_negInf xs dV hall, lnNormalise_all_negInf xs dV hall]

-- (`hdV` is not needed by the proof)
set_option linter.unusedVariables false in
/-- A marginal does not depend on the order of the entries along the reduced axis. -/
theorem lnMargCol_perm {c₁ c₂ : List (LogP ℝ)} (hp : c₁.Perm c₂) {dV : ℝ} (hdV : 0 < dV) :
    lnMargCol c₁ dV = lnMargCol c₂ dV :=
  LogDomain.lnMargCol_perm hp dV

/-- A marginal over more entries is never smaller: no entry can cancel another. -/
theorem lnMargCol_cons_le (x : LogP ℝ) (col : List (LogP ℝ)) {dV : ℝ} (hdV : 0 < dV) :
    toProb (lnMargCol col dV) ≤ toProb (lnMargCol (x :: col) dV) := by
  rw [lnMargCol_exact _ hdV, lnMargCol_exact _ hdV, List.map_cons, List.sum_cons]
  exact mul_le_mul_of_nonneg_left (le_add_of_nonneg_left (toProb_nonneg x)) hdV.le

/-- Every normalised density value is at most `1 / dV`: normalisation cannot produce `+∞`. -/
theorem lnNormalise_le (xs : List (LogP ℝ)) {dV : ℝ} (hdV : 0 < dV)
    (hfin : ∃ x ∈ xs, isFin x = true) (y : LogP ℝ) (hy : y ∈ lnNormalise xs dV) :
    dV * toProb y ≤ 1 := by
  rw [← lnNormalise_sum_one xs hdV hfin]
  exact mul_le_mul_of_nonneg_left (toProb_le_sum hy) hdV.le

/-- premises are satisfiable: a slice with a very large, a very small and a `-∞` entry. -/
example : ∃ x ∈ [fin (10000 : ℝ), negInf, fin (-100000)], isFin x = true :=
  ⟨fin 10000, by simp, rfl⟩

end MTfitVerif.C04
