import MTfitVerif.Model.Potency
import MTfitVerif.Real.ConvertLemmasSpectrum
/-
  C14 — eigen-decomposition and source-type coordinates are faithful and scale-free.
  (That NumPy's symmetric eigen-solver returns real, orthonormal, ordered axes that rebuild the
  tensor is an external assumption checked on its outputs in every run.)
-/
namespace MTfitVerif.C14
open MTfitVerif.Convert MTfitVerif.Potency Real

def smul3 (k : ℝ) (e : V3 ℝ) : V3 ℝ := ⟨k * e.x, k * e.y, k * e.z⟩

/-- descending sort: the result is ordered … -/
theorem sort3_sorted (e : V3 ℝ) : (sort3 e).z ≤ (sort3 e).y ∧ (sort3 e).y ≤ (sort3 e).x :=
  ⟨(sort3_spec e).1, (sort3_spec e).2.1⟩

/-- … and is a rearrangement of the input -/
theorem sort3_perm (e : V3 ℝ) : [(sort3 e).x, (sort3 e).y, (sort3 e).z].Perm [e.x, e.y, e.z] :=
  (sort3_spec e).2.2

/-- sorting does not depend on the order of the input -/
theorem sort3_order_inv (a b cc : ℝ) :
    sort3 ⟨a, b, cc⟩ = sort3 ⟨b, a, cc⟩ ∧ sort3 ⟨a, b, cc⟩ = sort3 ⟨a, cc, b⟩ ∧ sort3 ⟨a, b, cc⟩ = sort3 ⟨cc, b, a⟩ :=
  ⟨sort3_congr (List.Perm.swap _ _ _), sort3_congr ((List.Perm.swap _ _ _).cons _),
    sort3_congr (((List.Perm.swap _ _ _).cons _).trans <| (List.Perm.swap _ _ _).trans <|
      (List.Perm.swap _ _ _).cons _)⟩

-- (`hN`, `hP`, `hNP` are not needed by the proof)
set_option linter.unusedVariables false in
/-- an orthonormal eigen-system rebuilds its tensor: `(Σ eᵢ vᵢvᵢᵀ) vⱼ = eⱼ vⱼ`
    (stated for `j = T`; the `N` and `P` instances are `rebuild_eigen_N`, `rebuild_eigen_P` below) -/
theorem rebuild_eigen (T N P e : V3 ℝ) (hT : V3.dot T T = 1) (hN : V3.dot N N = 1) (hP : V3.dot P P = 1)
    (hTN : V3.dot T N = 0) (hTP : V3.dot T P = 0) (hNP : V3.dot N P = 0) :
    let m := rebuild T N P e
    (⟨m.xx * T.x + m.xy * T.y + m.xz * T.z, m.xy * T.x + m.yy * T.y + m.yz * T.z, m.xz * T.x + m.yz * T.y + m.zz * T.z⟩ : V3 ℝ)
      = smul3 e.x T := by
  refine (rebuild_mulVec T N P e T).trans ?_
  rw [hT, V3.dot_comm N, hTN, V3.dot_comm P, hTP]
  apply V3.ext' <;> simp only [V3.add, V3.smul, smul3, mul_one, mul_zero, zero_mul, add_zero]

theorem rebuild_eigen_N (T N P e : V3 ℝ) (hN : V3.dot N N = 1)
    (hTN : V3.dot T N = 0) (hNP : V3.dot N P = 0) :
    let m := rebuild T N P e
    (⟨m.xx * N.x + m.xy * N.y + m.xz * N.z, m.xy * N.x + m.yy * N.y + m.yz * N.z, m.xz * N.x + m.yz * N.y + m.zz * N.z⟩ : V3 ℝ)
      = smul3 e.y N := by
  refine (rebuild_mulVec T N P e N).trans ?_
  rw [hN, hTN, V3.dot_comm P, hNP]
  apply V3.ext' <;> simp only [V3.add, V3.smul, smul3, mul_one, mul_zero, zero_mul, add_zero, zero_add]

theorem rebuild_eigen_P (T N P e : V3 ℝ) (hP : V3.dot P P = 1)
    (hTP : V3.dot T P = 0) (hNP : V3.dot N P = 0) :
    let m := rebuild T N P e
    (⟨m.xx * P.x + m.xy * P.y + m.xz * P.z, m.xy * P.x + m.yy * P.y + m.yz * P.z, m.xz * P.x + m.yz * P.y + m.zz * P.z⟩ : V3 ℝ)
      = smul3 e.z P := by
  refine (rebuild_mulVec T N P e P).trans ?_
  rw [hP, hTP, hNP]
  apply V3.ext' <;> simp only [V3.add, V3.smul, smul3, mul_one, mul_zero, zero_mul, zero_add]

/-- lune coordinates depend only on the eigenvalue ratios: unchanged by positive scaling … -/
theorem eToGd_scale_inv (e : V3 ℝ) {k : ℝ} (hk : 0 < k) : eToGd (smul3 k e) = eToGd e :=
  eToGd_scale e hk

/-- … and by the order in which the eigenvalues are given -/
theorem eToGd_order_inv (a b cc : ℝ) :
    eToGd ⟨a, b, cc⟩ = eToGd ⟨b, a, cc⟩ ∧ eToGd ⟨a, b, cc⟩ = eToGd ⟨a, cc, b⟩ :=
  ⟨eToGd_congr (List.Perm.swap _ _ _), eToGd_congr ((List.Perm.swap _ _ _).cons _)⟩

/-- Hudson coordinates of the sorted spectrum: scale invariance -/
theorem hudson_scale_inv (e : V3 ℝ) {k : ℝ} (hk : 0 < k) :
    eToTk (sort3 (smul3 k e)) = eToTk (sort3 e) := by
  exact (congrArg eToTk (sort3_scale e hk.le)).trans (eToTk_scale _ hk)

/-- Hudson coordinates of the special sources: double-couple at (0,0), isotropic at (0,±1),
    CLVD at (∓1, 0) -/
theorem hudson_special_points :
    tkToUv (eToTk (⟨1, 0, -1⟩ : V3 ℝ)).1 (eToTk (⟨1, 0, -1⟩ : V3 ℝ)).2 = (0, 0) ∧
    tkToUv (eToTk (⟨1, 1, 1⟩ : V3 ℝ)).1 (eToTk (⟨1, 1, 1⟩ : V3 ℝ)).2 = (0, 1) ∧
    tkToUv (eToTk (⟨-1, -1, -1⟩ : V3 ℝ)).1 (eToTk (⟨-1, -1, -1⟩ : V3 ℝ)).2 = (0, -1) ∧
    tkToUv (eToTk (⟨2, -1, -1⟩ : V3 ℝ)).1 (eToTk (⟨2, -1, -1⟩ : V3 ℝ)).2 = (-1, 0) ∧
    tkToUv (eToTk (⟨1, 1, -2⟩ : V3 ℝ)).1 (eToTk (⟨1, 1, -2⟩ : V3 ℝ)).2 = (1, 0) := by
  -- all five lie on the axes `τ = 0` or `k = 0`, where `tkToUv` is the identity
  simp only [eToTk_eq]
  norm_num [tkOf, tkToUv_zero_left, tkToUv_zero_right]

-- (`hne` is not needed by the proof: over ℝ Mathlib's `x / 0 = 0`)
set_option linter.unusedVariables false in
/-- Hudson coordinates of any sorted, non-zero spectrum lie in `|u| ≤ 4/3`, `|v| ≤ 1`.
    (Proved through `|τ| + |k| ≤ 1`, `eToTk_abs_le`.  For the all-zero spectrum, which `hne` excludes,
    the floating-point code divides 0 by 0.) -/
theorem hudson_bounds (e : V3 ℝ) (h1 : e.y ≤ e.x) (h2 : e.z ≤ e.y) (hne : e.x ≠ 0 ∨ e.z ≠ 0) :
    |(tkToUv (eToTk e).1 (eToTk e).2).1| ≤ 4 / 3 ∧ |(tkToUv (eToTk e).1 (eToTk e).2).2| ≤ 1 := by
  exact tkToUv_bounds (eToTk_abs_le h1 h2)

/-- crack + double-couple parameters → lune coordinates → parameters is the identity on
    `[0, π/2) × (−1, 1/2)` -/
theorem cdc_roundtrip {a ν : ℝ} (ha0 : 0 ≤ a) (ha1 : a < π / 2) (hν0 : -1 < ν) (hν1 : ν < 1 / 2) :
    gdToCdc (cdcToGd a ν).1 (cdcToGd a ν).2 = (a, ν) := by
  have hc : 0 < cos a := cos_pos_of_mem_Ioo ⟨(neg_neg_of_pos (by positivity)).trans_le ha0, ha1⟩
  rw [cdcToGd_of_ne ha1.ne, gdToCdc_eq, sub_sub_cancel, cdc_t_identity hc hν0 hν1, tan_arctan,
    show -√3 * (-1 / √3 * cos a) = cos a by field_simp, arccos_cos ha0 (ha1.le.trans (half_le_self pi_pos.le))]
  have hν' : 1 + ν ≠ 0 := (neg_lt_iff_pos_add'.mp hν0).ne'
  congr 1
  field_simp
  ring

/-- at an opening angle of exactly π/2 the source is the pure double-couple whatever the Poisson
    ratio, and the opening angle is recovered -/
theorem cdc_at_pi_div_two (ν : ℝ) : cdcToGd (π / 2) ν = (0, 0) ∧ (gdToCdc 0 0).1 = π / 2 := by
  constructor
  · simp [cdcToGd]
  · simp only [gdToCdc_eq, tan_zero, mul_zero, arccos_zero]

theorem perm_involutive (v : List ℝ) (h : v.length = 6) : perm (perm v) = v := by
  match v, h with
  | [a, b, c, d, e, f], _ => rfl

theorem cvoigt_symmetric (cc : List ℝ) (i j : Nat) (hi : i < 6) (hj : j < 6) :
    ((cvoigt cc).getD i []).getD j 0 = ((cvoigt cc).getD j []).getD i 0 := by
  -- the table is a literal with the same entry written at (i, j) and (j, i)
  interval_cases i <;> interval_cases j <;> rfl

-- (`hm` is not needed by the proof: `perm` pads a short input with zeros)
set_option linter.unusedVariables false in
/-- converting a moment tensor to a potency tensor inverts multiplication by the stiffness matrix:
    `C · D = M` for every stiffness tensor for which the linear solver returns a solution -/
theorem mt6cToD6_inverts (solve : List (List ℝ) → List ℝ → List ℝ) (cc m : List ℝ) (hm : m.length = 6)
    (hsolve : matVec (cvoigt cc) (solve (cvoigt cc) (perm m)) = perm m)
    (hlen : (solve (cvoigt cc) (perm m)).length = 6) :
    matVec (cvoigt cc) (perm (mt6cToD6 solve cc m)) = perm m := by
  unfold mt6cToD6
  rw [perm_involutive _ hlen, hsolve]

/-- isotropic stiffness acts as `M = λ tr(D) I + 2μ D` -/
theorem isotropic_apply (l mu d0 d1 d2 d3 d4 d5 : ℝ) :
    matVec (cvoigt (isotropicC l mu)) [d0, d1, d2, d3, d4, d5]
      = [l * (d0 + d1 + d2) + 2 * mu * d0, l * (d0 + d1 + d2) + 2 * mu * d1, l * (d0 + d1 + d2) + 2 * mu * d2,
         2 * mu * d3, 2 * mu * d4, 2 * mu * d5] := by
  simp only [matVec, cvoigt, isotropicC, g, dot, List.map_cons, List.map_nil, List.getD_cons_zero,
    List.getD_cons_succ, flt_c, flt_sqrt, Nat.cast_ofNat, Nat.cast_zero, mul_zero, zero_mul, add_zero, zero_add,
    List.cons.injEq, and_true]
  refine ⟨?_, ?_, ?_⟩ <;> ring

end MTfitVerif.C14
