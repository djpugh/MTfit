import MTfitVerif.Props.C03Integral
import MTfitVerif.Real.RatioNormLemmas
/-
  C03 (normalisation) — Hinkley's closed form `ratioPdf` is a probability density on `ℝ`, and the
  amplitude-ratio likelihood `arPdf` is a probability density on `(0, ∞)` (the density of `|X/Y|`).
-/
namespace MTfitVerif.C03
open RatioPdf MeasureTheory

theorem gaussDensity_eq_gd (x μ σ : ℝ) : gaussDensity x μ σ = RatioNorm.gd x μ σ := rfl

theorem gaussDensity_integral_eq_one (μ : ℝ) {σ : ℝ} (hσ : 0 < σ) :
    ∫ x : ℝ, gaussDensity x μ σ = 1 :=
  RatioNorm.integral_gd hσ μ

/-- inner integral of the Fubini swap: `∫ |y| φ(z y; μ, σ) dz = 1` for `y ≠ 0` -/
theorem integral_abs_mul_gaussDensity_comp_mul (μ : ℝ) {σ : ℝ} (hσ : 0 < σ) {y : ℝ} (hy : y ≠ 0) :
    ∫ z : ℝ, |y| * gaussDensity (z * y) μ σ = 1 :=
  RatioNorm.integral_abs_mul_gd_comp_mul hσ μ hy

/-- `ratioPdf` as the `y`-integral of the planar kernel -/
theorem ratioPdf_eq_integral_kernel (z μx μy : ℝ) {σx σy : ℝ} (hx : 0 < σx) (hy : 0 < σy) :
    ratioPdf z μx μy σx σy = ∫ y : ℝ, RatioNorm.kernel μx μy σx σy (z, y) :=
  ratioPdf_eq_integral z μx μy hx hy

theorem ratioPdf_integrable (μx μy : ℝ) {σx σy : ℝ} (hx : 0 < σx) (hy : 0 < σy) :
    Integrable fun z : ℝ => ratioPdf z μx μy σx σy := by
  simp only [ratioPdf_eq_integral_kernel _ μx μy hx hy]
  exact (RatioNorm.integrable_kernel μx μy hx hy).integral_prod_left

/-- **the closed-form ratio density is normalised** -/
theorem ratioPdf_integral_eq_one (μx μy : ℝ) {σx σy : ℝ} (hx : 0 < σx) (hy : 0 < σy) :
    ∫ z : ℝ, ratioPdf z μx μy σx σy = 1 := by
  simp only [ratioPdf_eq_integral_kernel _ μx μy hx hy]
  exact RatioNorm.integral_integral_kernel μx μy hx hy

/-- **the amplitude-ratio likelihood is a normalised density in the observed ratio `r > 0`**
    (for non-zero modelled amplitudes; any fractional errors, `0` being replaced by `1e-24`) -/
theorem arPdf_integral_Ioi_eq_one {μx μy : ℝ} (hμx : μx ≠ 0) (hμy : μy ≠ 0) (px py : ℝ) :
    ∫ r in Set.Ioi (0:ℝ), arPdf r μx μy px py = 1 := by
  have hx := errFix_mul_abs_pos px hμx
  have hy := errFix_mul_abs_pos py hμy
  simp only [arPdf_eq, hμx, hμy, or_self, if_false]
  rw [RatioInt.integral_Ioi_add_comp_neg (ratioPdf_integrable |μx| |μy| hx hy)]
  exact ratioPdf_integral_eq_one |μx| |μy| hx hy

end MTfitVerif.C03
