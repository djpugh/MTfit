import MTfitVerif.Real.PyxBinningLemmas
/-
  C20 — the compiled scatter-binning kernel `cscatangle.get_multipliers` (`Id.run do` block of `Model/PyxKernels.lean`)
  computes the binning of the C18 model (`Scatangle.binAux` / `Scatangle.bin`).
-/
namespace MTfitVerif.C20
open MTfitVerif.Scatangle MTfitVerif.PyxBinning

section poly
variable {α : Type} [Add α] [Sub α] [Mul α] [Div α] [Neg α] [Flt α]

/-- for every scalar type the kernel is two nested folds over the multiplier array — for each sample `u` not
    marked `-1`, each later sample `v` with multiplier `> -1` whose take-off angles and azimuths all lie within
    `bin_size/2` of those of `u` (`closeIdx`: the station loop with `break` and the test `w == nsta - 1 && ok > 0` after
    it) is added to `u` and marked `-1`.

    No hypothesis on `nsta`: for `nsta = 0` the station loop never runs, so `w` keeps its initial value `0`, and since
    `nsta - 1 = 0` in `ℕ` the test `w == nsta - 1 && ok > 0` is true — every pair counts as close, in agreement with
    `closeIdx` (an empty conjunction).  (The proof carries the invariant `1 ≤ nsta ∨ w = 0` through the loops.  In the
    C source `nsta - 1` is `-1` for `nsta = 0`, which the translation does not model; only `1 ≤ nsta` is meaningful.) -/
theorem get_multipliers_eq_binKernel (A M : Array α) (n s1 nsta : Nat) (b : α) (n' : Nat) :
    Pyx.cscatangle.get_multipliers A n s1 nsta b M n' = binKernel (closeIdx A s1 nsta b) n M := by
  unfold Pyx.cscatangle.get_multipliers binKernel
  simp only [bind_pure_comp, Id.run_map]
  rw [PyxLoop.forIn_range_eq_list, ← List.range_eq_range']
  refine (PyxLoop.forIn_sim (σ := Array α × Nat × Nat × Nat × Nat) (List.range n) _ (fun s => s.1)
    (sweepStep (closeIdx A s1 nsta b) n) (fun s => 1 ≤ nsta ∨ s.2.2.1 = 0) ?_ _ (Or.inr rfl)).1
  intro s u hu hs
  by_cases hdead : Flt.eqb (s.fst.getD u (c 0)) (-(c 1)) = true
  · refine ⟨_, if_pos hdead, ?_, hs⟩
    simp only [sweepStep, hdead, if_true]
  · refine ⟨_, (if_neg hdead).trans rfl, ?_⟩
    simp only [sweepStep, hdead, Bool.false_eq_true, if_false]
    rw [PyxLoop.forIn_range_eq_list']
    refine PyxLoop.forIn_sim (σ := Array α × Nat × Nat × Nat) _ _ (fun s => s.1) (mergeStep (closeIdx A s1 nsta b) u)
      (fun t => 1 ≤ nsta ∨ t.2.1 = 0) ?_ _ hs
    intro t v hv ht
    have hgt : v > u := by
      have := (List.mem_range'_1.mp hv).1
      omega
    by_cases halive : Flt.ltb (-(c 1)) (t.fst.getD v (c 0)) = true
    · generalize hX : forIn (m := Id) [:nsta] (t.2.1, 1) _ = X
      obtain ⟨htest, hw⟩ :=
        break_test (matchAt A s1 nsta b u v) _ nsta _ X hX (fun k w => okStep _ _ k) ht
      refine ⟨(mergeStep (closeIdx A s1 nsta b) u t.1 v, X.run.1, X.run.2, v), ?_, rfl, hw⟩
      simp only [halive, if_true, id_bind_eq, htest, hgt, decide_true, mergeStep, true_and]
      by_cases hc : closeIdx A s1 nsta b u v = true
      · rw [if_pos hc, if_pos (by exact hc)]
      · rw [if_neg hc, if_neg (by exact hc)]
    · refine ⟨(t.1, t.2.1, t.2.2.1, v), if_neg halive, ?_, ht⟩
      simp only [mergeStep, halive, Bool.false_eq_true, false_and, if_false]

end poly

/-! ### over ℝ: the kernel against the C18 binning model -/

/-- the kernel keeps the length of the multiplier array -/
theorem get_multipliers_size (A M : Array ℝ) (s1 nsta : Nat) (b : ℝ) (n' : Nat) :
    (Pyx.cscatangle.get_multipliers A M.size s1 nsta b M n').size = M.size := by
  rw [get_multipliers_eq_binKernel]
  exact size_binKernel _ _ M

/-- main theorem, index form.  `recs`: the parsed samples (record, weight), every record with `nsta` stations and
    every weight positive; `anglesOf recs` the flat `(n × 2 × nsta)` array the extension is called with (`[i,0,j]` take-off
    angle, `[i,1,j]` azimuth of station `j` of record `i`), the multipliers the weights.  The records `i` whose output
    multiplier is positive (the merged samples are marked `-1`), each with that multiplier, are in order exactly the
    records and weights of the pure-Python binning loop `binAux`.

    `0 < binSize` is not needed.  `1 ≤ nsta` is not needed for the translated kernel either (see
    `get_multipliers_eq_binKernel`: for `nsta = 0` both sides merge everything into the first sample), but only
    `1 ≤ nsta` is meaningful for the C source. -/
theorem get_multipliers_eq_bin_index (binSize : ℝ) (nsta : Nat) (recs : List (Record ℝ × ℝ))
    (hlen : ∀ p ∈ recs, p.1.length = nsta) (hw : ∀ p ∈ recs, 0 < p.2) :
    ((List.range recs.length).filter fun i => decide (0 <
        (Pyx.cscatangle.get_multipliers (anglesOf recs) recs.length 2 nsta binSize (recs.map (·.2)).toArray
          recs.length).getD i 0)).map
      (fun i => (recAt recs i,
        (Pyx.cscatangle.get_multipliers (anglesOf recs) recs.length 2 nsta binSize (recs.map (·.2)).toArray
          recs.length).getD i 0))
      = Scatangle.binAux binSize recs.length recs := by
  obtain ⟨h1, h2⟩ := alive_weights recs hw
  have h3 := binKernel_eq_binAux binSize (recAt recs) (closeIdx (anglesOf recs) 2 nsta binSize) recs.length
    (fun u v hu hv => closeIdx_anglesOf recs nsta hlen binSize u v hu hv) _ (by simp) h2 recs.length (by rw [h1])
  rw [h1, ← get_multipliers_eq_binKernel (n' := recs.length), ← List.range_eq_range'] at h3
  exact h3

/-- main theorem, as a list of pairs: pairing every record with its output multiplier and keeping the pairs whose
    multiplier is positive gives the result of `binAux` -/
theorem get_multipliers_eq_bin (binSize : ℝ) (nsta : Nat) (recs : List (Record ℝ × ℝ))
    (hlen : ∀ p ∈ recs, p.1.length = nsta) (hw : ∀ p ∈ recs, 0 < p.2) :
    ((recs.map (·.1)).zip
        (Pyx.cscatangle.get_multipliers (anglesOf recs) recs.length 2 nsta binSize (recs.map (·.2)).toArray
          recs.length).toList).filter (fun p => decide (0 < p.2))
      = Scatangle.binAux binSize recs.length recs := by
  rw [← get_multipliers_eq_bin_index binSize nsta recs hlen hw]
  have hsize := get_multipliers_size (anglesOf recs) (recs.map (·.2)).toArray 2 nsta binSize recs.length
  rw [show (recs.map (·.2)).toArray.size = recs.length by simp] at hsize
  generalize Pyx.cscatangle.get_multipliers (anglesOf recs) recs.length 2 nsta binSize (recs.map (·.2)).toArray
    recs.length = out at hsize ⊢
  rw [zip_eq_map_range _ _ recs.length (by simp) (by simp [hsize]) [] 0, List.filter_map, List.range_eq_range']
  have hto : ∀ i, out.toList.getD i 0 = out.getD i 0 := by
    intro i
    simp [Array.getD_eq_getD_getElem?, List.getD_eq_getElem?_getD]
  simp only [hto, Function.comp_def]
  rfl

/-- for a non-zero bin size this is `parse_scatangle`'s binning `Scatangle.bin` of C18 -/
theorem get_multipliers_eq_bin_of_ne_zero (binSize : ℝ) (hb : binSize ≠ 0) (nsta : Nat) (recs : List (Record ℝ × ℝ))
    (hlen : ∀ p ∈ recs, p.1.length = nsta) (hw : ∀ p ∈ recs, 0 < p.2) :
    ((recs.map (·.1)).zip
        (Pyx.cscatangle.get_multipliers (anglesOf recs) recs.length 2 nsta binSize (recs.map (·.2)).toArray
          recs.length).toList).filter (fun p => decide (0 < p.2))
      = Scatangle.bin binSize recs := by
  rw [get_multipliers_eq_bin binSize nsta recs hlen hw, bin_eq_binAux, if_neg hb]

end MTfitVerif.C20
