import MTfitVerif.Real.PyxLoopLemmas
import MTfitVerif.Real.PyxLoopCombinedLemmas
/-
  C20 — the translated COMBINED station loops of the compiled likelihood kernels (`Id.run do` blocks of
  `Model/PyxKernels.lean`) compute the loop-free specification of `Model/PyxSpecCombined.lean`, for every scalar type:
  a station carries a manual polarity iff `u < umax`, a polarity probability iff `u < uprobmax`, an amplitude ratio iff
  `u < uarmax`; the kernels' `utmin`/`utmax` bookkeeping and nested `if`s select exactly that case, for the three counts in
  any order.
-/
namespace MTfitVerif.C20
open MTfitVerif.PyxSpec MTfitVerif.PyxLoop
variable {α : Type} [Add α] [Sub α] [Mul α] [Div α] [Neg α] [Flt α]

/-! ### the combined station loops (nested `for` with an early `return`, station classes by the counts) -/

/-- manual polarities (`u < umax`) and amplitude ratios (`u < uarmax`).  The loop runs over
    `max umax uarmax` stations and adds `polArTerm` of each to cell `index`, stopping after the first station at which the cell
    reads `-inf`.  No hypothesis on the order of the counts or on `index`. -/
theorem station_combined_polarity_ar_ln_pdf_eq (a ax ay mt lnP z sigma ipp psx psy : Array α)
    (ipmax v umax uarmax vmax kmax wmax w index : Nat) :
    Pyx.cprobability.station_combined_polarity_ar_ln_pdf a ax ay mt lnP z sigma ipp psx psy ipmax v umax uarmax vmax kmax
        wmax w index
      = lnP.setIfInBounds index
          (accumulate (polArTerm a ax ay mt z sigma ipp psx psy ipmax v umax uarmax vmax kmax wmax w) (max umax uarmax) 0
            (lnP.getD index (c 0))) := by
  -- The `if` that sets `utmin`, `utmax` ends in a join point taking them as arguments: pull it out (`extract_lets`), so that
  -- the loop runs with `min …`, `max …` whatever the order of the counts (`ite_min_max`).  In the loop, station `u` picks its
  -- branch by its class (which of `u < umax`, `u < uarmax` hold; neither, the last goal, contradicts `hu`); `↓reduceIte`
  -- reduces an `if` before its branches are visited, so the code of the other classes is never traversed.
  unfold Pyx.cprobability.station_combined_polarity_ar_ln_pdf
  extract_lets _ z0 _ _ _ loop
  refine (ite_min_max (fun m M => (loop () m M).run) umax uarmax).trans ?_
  unfold loop
  clear loop
  refine forIn_station_below rfl ?_ _ _ _ (fun _ _ _ => rfl) fun _ _ => rfl
  intro u hu o P r
  by_cases h1 : u < umax <;> by_cases h2 : u < uarmax
  rotate_right
  · omega
  all_goals
    by_cases hip : (ipmax == 1) = true <;>
    simp only [hip, h1, h2, Nat.lt_min, ge_iff_le, Nat.not_lt.symm, decide_eq_true_eq, and_self, and_true, and_false,
      not_true_eq_false, not_false_eq_true, Bool.false_eq_true, ↓reduceIte, forIn_range_yield, pure_bind, z0, ksum1,
      ksum2, ksum3, amp_fold, polArTerm_eq, polTerm, arTerm, negInf] <;>
    exact ⟨_, rfl⟩

/-- polarity probabilities (`u < umax` — in this kernel `umax` is the count of polarity-probability stations)
    and amplitude ratios (`u < uarmax`) -/
theorem station_combined_polarity_probability_ar_ln_pdf_eq (a ax ay mt lnP z pos neg ipp psx psy : Array α)
    (ipmax v umax uarmax vmax kmax wmax w index : Nat) :
    Pyx.cprobability.station_combined_polarity_probability_ar_ln_pdf a ax ay mt lnP z pos neg ipp psx psy ipmax v umax uarmax
        vmax kmax wmax w index
      = lnP.setIfInBounds index
          (accumulate (polProbArTerm a ax ay mt z pos neg ipp psx psy ipmax v umax uarmax vmax kmax wmax w) (max umax uarmax) 0
            (lnP.getD index (c 0))) := by
  -- as for `station_combined_polarity_ar_ln_pdf_eq`
  unfold Pyx.cprobability.station_combined_polarity_probability_ar_ln_pdf
  extract_lets _ z0 _ _ _ loop
  refine (ite_min_max (fun m M => (loop () m M).run) umax uarmax).trans ?_
  unfold loop
  clear loop
  refine forIn_station_below rfl ?_ _ _ _ (fun _ _ _ => rfl) fun _ _ => rfl
  intro u hu o P r
  by_cases h1 : u < umax <;> by_cases h2 : u < uarmax
  rotate_right
  · omega
  all_goals
    by_cases hip : (ipmax == 1) = true <;>
    simp only [hip, h1, h2, Nat.lt_min, ge_iff_le, Nat.not_lt.symm, decide_eq_true_eq, and_self, and_true, and_false,
      not_true_eq_false, not_false_eq_true, Bool.false_eq_true, ↓reduceIte, forIn_range_yield, pure_bind, z0, ksum1,
      ksum2, ksum3, amp_fold, polProbArTerm_eq, polProbTerm, arTerm, negInf] <;>
    exact ⟨_, rfl⟩

/-- manual polarities (`u < umax`) and polarity probabilities (`u < uprobmax`) -/
theorem station_combined_pol_ln_pdf_eq (a a_prob mt lnP pos neg ipp sigma : Array α)
    (ipmax v umax uprobmax vmax kmax wmax w index : Nat) :
    Pyx.cprobability.station_combined_pol_ln_pdf a a_prob mt lnP pos neg ipp sigma ipmax v umax uprobmax vmax kmax wmax w index
      = lnP.setIfInBounds index
          (accumulate (polPolProbTerm a a_prob mt pos neg ipp sigma ipmax v umax uprobmax vmax kmax wmax w) (max umax uprobmax) 0
            (lnP.getD index (c 0))) := by
  -- as for `station_combined_polarity_ar_ln_pdf_eq`
  unfold Pyx.cprobability.station_combined_pol_ln_pdf
  extract_lets _ z0 _ _ _ loop
  refine (ite_min_max (fun m M => (loop () m M).run) umax uprobmax).trans ?_
  unfold loop
  clear loop
  refine forIn_station_below rfl ?_ _ _ _ (fun _ _ _ => rfl) fun _ _ => rfl
  intro u hu o P r
  by_cases h1 : u < umax <;> by_cases h2 : u < uprobmax
  rotate_right
  · omega
  all_goals
    by_cases hip : (ipmax == 1) = true <;>
    simp only [hip, h1, h2, Nat.lt_min, ge_iff_le, Nat.not_lt.symm, decide_eq_true_eq, and_self, and_true, and_false,
      not_true_eq_false, not_false_eq_true, Bool.false_eq_true, ↓reduceIte, forIn_range_yield, pure_bind, z0, ksum1,
      ksum2, amp_fold, polPolProbTerm_eq, polTerm, polProbTerm, negInf] <;>
    exact ⟨_, rfl⟩

/-- manual polarities (`u < umax`), polarity probabilities (`u < uprobmax`) and amplitude ratios
    (`u < uarmax`).  The kernel's `utmax` is `max umax (max uarmax uprobmax)`, its `utmin` the minimum of the three, and its
    nested `if`s select exactly the case of `allTerm`, whatever the order of the three counts.
    Remark (no deviation): in the last branch (`u < umax`, `u < uprobmax`, reached only with `utmin ≤ u`) the code tests
    `u ≥ uprobmax` a second time (cprobability.pyx line 500, "#Pol Only"); that test is always false there, so its `then` part
    is dead code, and the live `else` part (`log pol_prob + log pol`) is the right case because the three facts force
    `uarmax ≤ u`. -/
theorem station_combined_all_ln_pdf_eq (a a_prob ax ay mt lnP z pos neg ipp psx psy sigma : Array α)
    (ipmax v umax uarmax uprobmax vmax kmax wmax w index : Nat) :
    Pyx.cprobability.station_combined_all_ln_pdf a a_prob ax ay mt lnP z pos neg ipp psx psy sigma ipmax v umax uarmax uprobmax
        vmax kmax wmax w index
      = lnP.setIfInBounds index
          (accumulate (allTerm a a_prob ax ay mt z pos neg ipp psx psy sigma ipmax v umax uarmax uprobmax vmax kmax wmax w)
            (max umax (max uarmax uprobmax)) 0 (lnP.getD index (c 0))) := by
  -- as for `station_combined_polarity_ar_ln_pdf_eq`, with one join point per `if` of the `utmin`/`utmax` prefix
  unfold Pyx.cprobability.station_combined_all_ln_pdf
  extract_lets _ z0 _ _ _ _ jp1
  refine (ite_min_max (fun m M => (jp1 () m M).run) umax uarmax).trans ?_
  unfold jp1
  clear jp1
  extract_lets jp2
  refine (ite_min_max (fun m _ => (jp2 () m).run) (min umax uarmax) uprobmax).trans ?_
  unfold jp2
  clear jp2
  extract_lets jp3
  refine (ite_min_max (fun _ M => (jp3 () M).run) uprobmax (max umax uarmax)).trans ?_
  unfold jp3
  clear jp3
  refine forIn_station_below ((Nat.max_assoc _ _ _).symm.trans (Nat.max_comm _ _)) ?_ _ _ _ (fun _ _ _ => rfl) fun _ _ => rfl
  intro u hu o P r
  by_cases h1 : u < umax <;> by_cases h2 : u < uprobmax <;> by_cases h3 : u < uarmax
  rotate_right
  · omega
  all_goals
    by_cases hip : (ipmax == 1) = true <;>
    simp only [hip, h1, h2, h3, Nat.lt_min, ge_iff_le, Nat.not_lt.symm, decide_eq_true_eq, and_self, and_true, and_false,
      not_true_eq_false, not_false_eq_true, Bool.false_eq_true, ↓reduceIte, forIn_range_yield, pure_bind, z0, ksum1,
      ksum2, ksum3, ksum4, amp_fold, allTerm_eq, polTerm, polProbTerm, arTerm, negInf] <;>
    exact ⟨_, rfl⟩

/-! ## the kernels that call the combined station loops

  As in `Props/C20Loops.lean`.  `…_unmarginalised`: both results of the kernel with `marginalised = 0` — every cell `[v, w]`
  overwritten (in the code's order) with the station loop's value, the location-sample buffer untouched; `…_marginalised`: the
  first result with `marginalised > 0`, as a fold that writes cell `w` for `w = 0, …, wmax - 1`; `…_eq_…`: one cell. -/

/-! ### `c_polarity_ar_ln_pdf`: manual polarities and amplitude ratios (`umax = a_arr_s0`, `uarmax = ax_arr_s0`) -/

/-- value of cell `[v, w]` after `c_polarity_ar_ln_pdf` -/
def polArCell (a_arr ax ay mt z sigma_arr ipp psx psy lsm : Array α) (ipmax umax uarmax vmax kmax wmax v w : Nat) : α :=
  accumulate (polArTerm a_arr ax ay mt z sigma_arr ipp psx psy ipmax v umax uarmax vmax kmax wmax w) (max umax uarmax) 0
    (lsm.getD v (c 0))

theorem c_polarity_ar_ln_pdf_unmarginalised (ln_P a_arr mt sigma_arr ipp z ax ay psx psy lpls lsm : Array α)
    (umax vmax kmax mt_s0 wmax sigma_s0 ipmax z_s0 uarmax ax_s1 ax_s2 ay_s0 ay_s1 ay_s2 psx_s0 psy_s0 : Nat) :
    Pyx.cprobability.c_polarity_ar_ln_pdf ln_P a_arr umax vmax kmax mt mt_s0 wmax sigma_arr sigma_s0 ipp ipmax z z_s0 ax uarmax ax_s1 ax_s2 ay ay_s0 ay_s1 ay_s2
        psx psx_s0 psy psy_s0 0 lpls lsm
      = (fillCells (polArCell a_arr ax ay mt z sigma_arr ipp psx psy lsm ipmax umax uarmax vmax kmax wmax) vmax wmax ln_P, lpls) := by
  unfold Pyx.cprobability.c_polarity_ar_ln_pdf
  simp only [Nat.lt_irrefl, gt_iff_lt, decide_false, Bool.false_eq_true, ↓reduceIte, forIn_range_yield,
    bind_pure_comp, map_pure, Id.run_pure, station_combined_polarity_ar_ln_pdf_eq, set_set_accumulate]
  exact fill_loop (polArCell a_arr ax ay mt z sigma_arr ipp psx psy lsm ipmax umax uarmax vmax kmax wmax) vmax wmax
    Prod.fst (fun s => Prod.fst (Prod.snd s)) Prod.fst (by intros; exact ⟨rfl, rfl⟩) (by intros; rfl) (by intros; rfl) _

/-- with `marginalised = 0` and room for the `vmax × wmax` cells, cell `[v, w]` of the first result is the combined
    station loop's value started from the location-sample multiplier -/
theorem c_polarity_ar_ln_pdf_eq_unmarginalised (ln_P a_arr mt sigma_arr ipp z ax ay psx psy lpls lsm : Array α)
    (umax vmax kmax mt_s0 wmax sigma_s0 ipmax z_s0 uarmax ax_s1 ax_s2 ay_s0 ay_s1 ay_s2 psx_s0 psy_s0 : Nat)
    (hsize : vmax * wmax ≤ ln_P.size) {v w : Nat} (hv : v < vmax) (hw : w < wmax) :
    (Pyx.cprobability.c_polarity_ar_ln_pdf ln_P a_arr umax vmax kmax mt mt_s0 wmax sigma_arr sigma_s0 ipp ipmax z z_s0 ax uarmax ax_s1 ax_s2 ay ay_s0 ay_s1 ay_s2
        psx psx_s0 psy psy_s0 0 lpls lsm).1.getD (v * wmax + w) (c 0)
      = accumulate (polArTerm a_arr ax ay mt z sigma_arr ipp psx psy ipmax v umax uarmax vmax kmax wmax w)
          (max umax uarmax) 0 (lsm.getD v (c 0)) := by
  rw [c_polarity_ar_ln_pdf_unmarginalised]
  exact getD_fillCells _ vmax wmax ln_P (c 0) hsize hv hw

theorem c_polarity_ar_ln_pdf_marginalised (ln_P a_arr mt sigma_arr ipp z ax ay psx psy lpls lsm : Array α)
    (umax vmax kmax mt_s0 wmax sigma_s0 ipmax z_s0 uarmax ax_s1 ax_s2 ay_s0 ay_s1 ay_s2 psx_s0 psy_s0 marg : Nat)
    (hm : 0 < marg) (hL : vmax ≤ lpls.size) :
    (Pyx.cprobability.c_polarity_ar_ln_pdf ln_P a_arr umax vmax kmax mt mt_s0 wmax sigma_arr sigma_s0 ipp ipmax z z_s0 ax uarmax ax_s1 ax_s2 ay ay_s0 ay_s1 ay_s2
        psx psx_s0 psy psy_s0 marg lpls lsm).1
      = (List.range wmax).foldl (fun (P : Array α) w => P.setIfInBounds w
          (margCell (fun v => polArCell a_arr ax ay mt z sigma_arr ipp psx psy lsm ipmax umax uarmax vmax kmax wmax v w) vmax)) ln_P := by
  unfold Pyx.cprobability.c_polarity_ar_ln_pdf
  simp only [hm, decide_true, ↓reduceIte, Id.run_bind, Id.run_pure, station_combined_polarity_ar_ln_pdf_eq,
    set_set_accumulate]
  exact marg_loop (polArCell a_arr ax ay mt z sigma_arr ipp psx psy lsm ipmax umax uarmax vmax kmax wmax) vmax wmax
    Prod.fst (fun s => Prod.fst (Prod.snd s)) Prod.fst (fun s => Prod.snd (Prod.snd s)) Prod.fst
    (by intros; rfl) (by intros; exact ⟨rfl, rfl, rfl, rfl⟩) (by intros; exact ⟨rfl, rfl⟩) (by intros; exact ⟨rfl, rfl⟩)
    (by intros; rfl) (by intros; rfl) _ hL

/-- with `marginalised > 0`, room for `vmax` location samples in the buffer and for `wmax` cells in `ln_P`,
    cell `w` of the first result is `log (Σ_v exp (x_v - m)) + m` with `x_v` the combined station loop's value for location
    sample `v` and `m` their running `fmax` from `-inf`, or `-inf` when `m` is not `> -inf` (`PyxLoop.margCell`). -/
theorem c_polarity_ar_ln_pdf_eq_marginalised (ln_P a_arr mt sigma_arr ipp z ax ay psx psy lpls lsm : Array α)
    (umax vmax kmax mt_s0 wmax sigma_s0 ipmax z_s0 uarmax ax_s1 ax_s2 ay_s0 ay_s1 ay_s2 psx_s0 psy_s0 marg : Nat)
    (hm : 0 < marg) (hL : vmax ≤ lpls.size) (hP : wmax ≤ ln_P.size) {w : Nat} (hw : w < wmax) :
    (Pyx.cprobability.c_polarity_ar_ln_pdf ln_P a_arr umax vmax kmax mt mt_s0 wmax sigma_arr sigma_s0 ipp ipmax z z_s0 ax uarmax ax_s1 ax_s2 ay ay_s0 ay_s1 ay_s2
        psx psx_s0 psy psy_s0 marg lpls lsm).1.getD w (c 0)
      = margCell (fun v => accumulate (polArTerm a_arr ax ay mt z sigma_arr ipp psx psy ipmax v umax uarmax vmax kmax wmax w)
          (max umax uarmax) 0 (lsm.getD v (c 0))) vmax := by
  rw [c_polarity_ar_ln_pdf_marginalised (hm := hm) (hL := hL)]
  exact getD_foldl_set_self _ wmax ln_P (c 0) hP hw

/-! ### `c_polarity_prob_combined_ln_pdf`: polarity probabilities and amplitude ratios (`umax = a_arr_s0`, `uarmax = ax_arr_s0`) -/

/-- value of cell `[v, w]` after `c_polarity_prob_combined_ln_pdf` -/
def polProbArCell (a_arr ax ay mt z pos neg ipp psx psy lsm : Array α) (ipmax umax uarmax vmax kmax wmax v w : Nat) : α :=
  accumulate (polProbArTerm a_arr ax ay mt z pos neg ipp psx psy ipmax v umax uarmax vmax kmax wmax w) (max umax uarmax) 0
    (lsm.getD v (c 0))

theorem c_polarity_prob_combined_ln_pdf_unmarginalised (ln_P a_arr mt pos neg ipp z ax ay psx psy lpls lsm : Array α)
    (umax vmax kmax mt_s0 wmax pos_s0 neg_s0 ipmax z_s0 uarmax ax_s1 ax_s2 ay_s0 ay_s1 ay_s2 psx_s0 psy_s0 : Nat) :
    Pyx.cprobability.c_polarity_prob_combined_ln_pdf ln_P a_arr umax vmax kmax mt mt_s0 wmax pos pos_s0 neg neg_s0 ipp ipmax z z_s0 ax uarmax ax_s1 ax_s2 ay ay_s0 ay_s1 ay_s2
        psx psx_s0 psy psy_s0 0 lpls lsm
      = (fillCells (polProbArCell a_arr ax ay mt z pos neg ipp psx psy lsm ipmax umax uarmax vmax kmax wmax) vmax wmax ln_P, lpls) := by
  unfold Pyx.cprobability.c_polarity_prob_combined_ln_pdf
  simp only [Nat.lt_irrefl, gt_iff_lt, decide_false, Bool.false_eq_true, ↓reduceIte, forIn_range_yield,
    bind_pure_comp, map_pure, Id.run_pure, station_combined_polarity_probability_ar_ln_pdf_eq, set_set_accumulate]
  exact fill_loop (polProbArCell a_arr ax ay mt z pos neg ipp psx psy lsm ipmax umax uarmax vmax kmax wmax) vmax wmax
    Prod.fst (fun s => Prod.fst (Prod.snd s)) Prod.fst (by intros; exact ⟨rfl, rfl⟩) (by intros; rfl) (by intros; rfl) _

/-- with `marginalised = 0` and room for the `vmax × wmax` cells, cell `[v, w]` of the first result is the combined
    station loop's value started from the location-sample multiplier -/
theorem c_polarity_prob_combined_ln_pdf_eq_unmarginalised (ln_P a_arr mt pos neg ipp z ax ay psx psy lpls lsm : Array α)
    (umax vmax kmax mt_s0 wmax pos_s0 neg_s0 ipmax z_s0 uarmax ax_s1 ax_s2 ay_s0 ay_s1 ay_s2 psx_s0 psy_s0 : Nat)
    (hsize : vmax * wmax ≤ ln_P.size) {v w : Nat} (hv : v < vmax) (hw : w < wmax) :
    (Pyx.cprobability.c_polarity_prob_combined_ln_pdf ln_P a_arr umax vmax kmax mt mt_s0 wmax pos pos_s0 neg neg_s0 ipp ipmax z z_s0 ax uarmax ax_s1 ax_s2 ay ay_s0 ay_s1 ay_s2
        psx psx_s0 psy psy_s0 0 lpls lsm).1.getD (v * wmax + w) (c 0)
      = accumulate (polProbArTerm a_arr ax ay mt z pos neg ipp psx psy ipmax v umax uarmax vmax kmax wmax w)
          (max umax uarmax) 0 (lsm.getD v (c 0)) := by
  rw [c_polarity_prob_combined_ln_pdf_unmarginalised]
  exact getD_fillCells _ vmax wmax ln_P (c 0) hsize hv hw

theorem c_polarity_prob_combined_ln_pdf_marginalised (ln_P a_arr mt pos neg ipp z ax ay psx psy lpls lsm : Array α)
    (umax vmax kmax mt_s0 wmax pos_s0 neg_s0 ipmax z_s0 uarmax ax_s1 ax_s2 ay_s0 ay_s1 ay_s2 psx_s0 psy_s0 marg : Nat)
    (hm : 0 < marg) (hL : vmax ≤ lpls.size) :
    (Pyx.cprobability.c_polarity_prob_combined_ln_pdf ln_P a_arr umax vmax kmax mt mt_s0 wmax pos pos_s0 neg neg_s0 ipp ipmax z z_s0 ax uarmax ax_s1 ax_s2 ay ay_s0 ay_s1 ay_s2
        psx psx_s0 psy psy_s0 marg lpls lsm).1
      = (List.range wmax).foldl (fun (P : Array α) w => P.setIfInBounds w
          (margCell (fun v => polProbArCell a_arr ax ay mt z pos neg ipp psx psy lsm ipmax umax uarmax vmax kmax wmax v w) vmax)) ln_P := by
  unfold Pyx.cprobability.c_polarity_prob_combined_ln_pdf
  simp only [hm, decide_true, ↓reduceIte, Id.run_bind, Id.run_pure, station_combined_polarity_probability_ar_ln_pdf_eq,
    set_set_accumulate]
  exact marg_loop (polProbArCell a_arr ax ay mt z pos neg ipp psx psy lsm ipmax umax uarmax vmax kmax wmax) vmax wmax
    Prod.fst (fun s => Prod.fst (Prod.snd s)) Prod.fst (fun s => Prod.snd (Prod.snd s)) Prod.fst
    (by intros; rfl) (by intros; exact ⟨rfl, rfl, rfl, rfl⟩) (by intros; exact ⟨rfl, rfl⟩) (by intros; exact ⟨rfl, rfl⟩)
    (by intros; rfl) (by intros; rfl) _ hL

/-- with `marginalised > 0`, room for `vmax` location samples in the buffer and for `wmax` cells in `ln_P`,
    cell `w` of the first result is `log (Σ_v exp (x_v - m)) + m` with `x_v` the combined station loop's value for location
    sample `v` and `m` their running `fmax` from `-inf`, or `-inf` when `m` is not `> -inf` (`PyxLoop.margCell`). -/
theorem c_polarity_prob_combined_ln_pdf_eq_marginalised (ln_P a_arr mt pos neg ipp z ax ay psx psy lpls lsm : Array α)
    (umax vmax kmax mt_s0 wmax pos_s0 neg_s0 ipmax z_s0 uarmax ax_s1 ax_s2 ay_s0 ay_s1 ay_s2 psx_s0 psy_s0 marg : Nat)
    (hm : 0 < marg) (hL : vmax ≤ lpls.size) (hP : wmax ≤ ln_P.size) {w : Nat} (hw : w < wmax) :
    (Pyx.cprobability.c_polarity_prob_combined_ln_pdf ln_P a_arr umax vmax kmax mt mt_s0 wmax pos pos_s0 neg neg_s0 ipp ipmax z z_s0 ax uarmax ax_s1 ax_s2 ay ay_s0 ay_s1 ay_s2
        psx psx_s0 psy psy_s0 marg lpls lsm).1.getD w (c 0)
      = margCell (fun v => accumulate (polProbArTerm a_arr ax ay mt z pos neg ipp psx psy ipmax v umax uarmax vmax kmax wmax w)
          (max umax uarmax) 0 (lsm.getD v (c 0))) vmax := by
  rw [c_polarity_prob_combined_ln_pdf_marginalised (hm := hm) (hL := hL)]
  exact getD_foldl_set_self _ wmax ln_P (c 0) hP hw

/-! ### `c_combined_pol_ln_pdf`: manual polarities and polarity probabilities (`umax = a_arr_s0`, `uprobmax = a_prob_arr_s0`) -/

/-- value of cell `[v, w]` after `c_combined_pol_ln_pdf` -/
def polPolProbCell (a_arr a_prob mt pos neg ipp sigma_arr lsm : Array α) (ipmax umax uprobmax vmax kmax wmax v w : Nat) : α :=
  accumulate (polPolProbTerm a_arr a_prob mt pos neg ipp sigma_arr ipmax v umax uprobmax vmax kmax wmax w) (max umax uprobmax) 0
    (lsm.getD v (c 0))

theorem c_combined_pol_ln_pdf_unmarginalised (ln_P a_arr mt sigma_arr a_prob pos neg ipp lpls lsm : Array α)
    (umax vmax kmax mt_s0 wmax sigma_s0 uprobmax ap_s1 ap_s2 pos_s0 neg_s0 ipmax : Nat) :
    Pyx.cprobability.c_combined_pol_ln_pdf ln_P a_arr umax vmax kmax mt mt_s0 wmax sigma_arr sigma_s0 a_prob uprobmax ap_s1 ap_s2 pos pos_s0 neg neg_s0 ipp ipmax
        0 lpls lsm
      = (fillCells (polPolProbCell a_arr a_prob mt pos neg ipp sigma_arr lsm ipmax umax uprobmax vmax kmax wmax) vmax wmax ln_P, lpls) := by
  unfold Pyx.cprobability.c_combined_pol_ln_pdf
  simp only [Nat.lt_irrefl, gt_iff_lt, decide_false, Bool.false_eq_true, ↓reduceIte, forIn_range_yield,
    bind_pure_comp, map_pure, Id.run_pure, station_combined_pol_ln_pdf_eq, set_set_accumulate]
  exact fill_loop (polPolProbCell a_arr a_prob mt pos neg ipp sigma_arr lsm ipmax umax uprobmax vmax kmax wmax) vmax wmax
    Prod.fst (fun s => Prod.fst (Prod.snd s)) Prod.fst (by intros; exact ⟨rfl, rfl⟩) (by intros; rfl) (by intros; rfl) _

/-- with `marginalised = 0` and room for the `vmax × wmax` cells, cell `[v, w]` of the first result is the combined
    station loop's value started from the location-sample multiplier -/
theorem c_combined_pol_ln_pdf_eq_unmarginalised (ln_P a_arr mt sigma_arr a_prob pos neg ipp lpls lsm : Array α)
    (umax vmax kmax mt_s0 wmax sigma_s0 uprobmax ap_s1 ap_s2 pos_s0 neg_s0 ipmax : Nat)
    (hsize : vmax * wmax ≤ ln_P.size) {v w : Nat} (hv : v < vmax) (hw : w < wmax) :
    (Pyx.cprobability.c_combined_pol_ln_pdf ln_P a_arr umax vmax kmax mt mt_s0 wmax sigma_arr sigma_s0 a_prob uprobmax ap_s1 ap_s2 pos pos_s0 neg neg_s0 ipp ipmax
        0 lpls lsm).1.getD (v * wmax + w) (c 0)
      = accumulate (polPolProbTerm a_arr a_prob mt pos neg ipp sigma_arr ipmax v umax uprobmax vmax kmax wmax w)
          (max umax uprobmax) 0 (lsm.getD v (c 0)) := by
  rw [c_combined_pol_ln_pdf_unmarginalised]
  exact getD_fillCells _ vmax wmax ln_P (c 0) hsize hv hw

theorem c_combined_pol_ln_pdf_marginalised (ln_P a_arr mt sigma_arr a_prob pos neg ipp lpls lsm : Array α)
    (umax vmax kmax mt_s0 wmax sigma_s0 uprobmax ap_s1 ap_s2 pos_s0 neg_s0 ipmax marg : Nat)
    (hm : 0 < marg) (hL : vmax ≤ lpls.size) :
    (Pyx.cprobability.c_combined_pol_ln_pdf ln_P a_arr umax vmax kmax mt mt_s0 wmax sigma_arr sigma_s0 a_prob uprobmax ap_s1 ap_s2 pos pos_s0 neg neg_s0 ipp ipmax
        marg lpls lsm).1
      = (List.range wmax).foldl (fun (P : Array α) w => P.setIfInBounds w
          (margCell (fun v => polPolProbCell a_arr a_prob mt pos neg ipp sigma_arr lsm ipmax umax uprobmax vmax kmax wmax v w) vmax)) ln_P := by
  unfold Pyx.cprobability.c_combined_pol_ln_pdf
  simp only [hm, decide_true, ↓reduceIte, Id.run_bind, Id.run_pure, station_combined_pol_ln_pdf_eq, set_set_accumulate]
  exact marg_loop (polPolProbCell a_arr a_prob mt pos neg ipp sigma_arr lsm ipmax umax uprobmax vmax kmax wmax) vmax wmax
    Prod.fst (fun s => Prod.fst (Prod.snd s)) Prod.fst (fun s => Prod.snd (Prod.snd s)) Prod.fst
    (by intros; rfl) (by intros; exact ⟨rfl, rfl, rfl, rfl⟩) (by intros; exact ⟨rfl, rfl⟩) (by intros; exact ⟨rfl, rfl⟩)
    (by intros; rfl) (by intros; rfl) _ hL

/-- with `marginalised > 0`, room for `vmax` location samples in the buffer and for `wmax` cells in `ln_P`,
    cell `w` of the first result is `log (Σ_v exp (x_v - m)) + m` with `x_v` the combined station loop's value for location
    sample `v` and `m` their running `fmax` from `-inf`, or `-inf` when `m` is not `> -inf` (`PyxLoop.margCell`). -/
theorem c_combined_pol_ln_pdf_eq_marginalised (ln_P a_arr mt sigma_arr a_prob pos neg ipp lpls lsm : Array α)
    (umax vmax kmax mt_s0 wmax sigma_s0 uprobmax ap_s1 ap_s2 pos_s0 neg_s0 ipmax marg : Nat)
    (hm : 0 < marg) (hL : vmax ≤ lpls.size) (hP : wmax ≤ ln_P.size) {w : Nat} (hw : w < wmax) :
    (Pyx.cprobability.c_combined_pol_ln_pdf ln_P a_arr umax vmax kmax mt mt_s0 wmax sigma_arr sigma_s0 a_prob uprobmax ap_s1 ap_s2 pos pos_s0 neg neg_s0 ipp ipmax
        marg lpls lsm).1.getD w (c 0)
      = margCell (fun v => accumulate (polPolProbTerm a_arr a_prob mt pos neg ipp sigma_arr ipmax v umax uprobmax vmax kmax wmax w)
          (max umax uprobmax) 0 (lsm.getD v (c 0))) vmax := by
  rw [c_combined_pol_ln_pdf_marginalised (hm := hm) (hL := hL)]
  exact getD_foldl_set_self _ wmax ln_P (c 0) hP hw

/-! ### `c_all_combined_ln_pdf`: manual polarities, polarity probabilities and amplitude ratios (`umax = a_arr_s0`, `uprobmax = a_prob_arr_s0`,
    `uarmax = ax_arr_s0`) -/

/-- value of cell `[v, w]` after `c_all_combined_ln_pdf` -/
def allCell (a_arr a_prob ax ay mt z pos neg ipp psx psy sigma_arr lsm : Array α) (ipmax umax uarmax uprobmax vmax kmax wmax v w : Nat) : α :=
  accumulate (allTerm a_arr a_prob ax ay mt z pos neg ipp psx psy sigma_arr ipmax v umax uarmax uprobmax vmax kmax wmax w) (max umax (max uarmax uprobmax)) 0
    (lsm.getD v (c 0))

theorem c_all_combined_ln_pdf_unmarginalised (ln_P a_arr mt sigma_arr a_prob pos neg ipp z ax ay psx psy lpls lsm : Array α)
    (umax vmax kmax mt_s0 wmax sigma_s0 uprobmax ap_s1 ap_s2 pos_s0 neg_s0 ipmax z_s0 uarmax ax_s1 ax_s2 ay_s0 ay_s1 ay_s2
    psx_s0 psy_s0 : Nat) :
    Pyx.cprobability.c_all_combined_ln_pdf ln_P a_arr umax vmax kmax mt mt_s0 wmax sigma_arr sigma_s0 a_prob uprobmax ap_s1 ap_s2 pos pos_s0 neg neg_s0 ipp ipmax
        z z_s0 ax uarmax ax_s1 ax_s2 ay ay_s0 ay_s1 ay_s2 psx psx_s0 psy psy_s0 0 lpls lsm
      = (fillCells (allCell a_arr a_prob ax ay mt z pos neg ipp psx psy sigma_arr lsm ipmax umax uarmax uprobmax vmax kmax wmax) vmax wmax ln_P, lpls) := by
  unfold Pyx.cprobability.c_all_combined_ln_pdf
  simp only [Nat.lt_irrefl, gt_iff_lt, decide_false, Bool.false_eq_true, ↓reduceIte, forIn_range_yield,
    bind_pure_comp, map_pure, Id.run_pure, station_combined_all_ln_pdf_eq, set_set_accumulate]
  exact fill_loop (allCell a_arr a_prob ax ay mt z pos neg ipp psx psy sigma_arr lsm ipmax umax uarmax uprobmax vmax kmax wmax) vmax wmax
    Prod.fst (fun s => Prod.fst (Prod.snd s)) Prod.fst (by intros; exact ⟨rfl, rfl⟩) (by intros; rfl) (by intros; rfl) _

/-- with `marginalised = 0` and room for the `vmax × wmax` cells, cell `[v, w]` of the first result is the combined
    station loop's value started from the location-sample multiplier -/
theorem c_all_combined_ln_pdf_eq_unmarginalised (ln_P a_arr mt sigma_arr a_prob pos neg ipp z ax ay psx psy lpls lsm : Array α)
    (umax vmax kmax mt_s0 wmax sigma_s0 uprobmax ap_s1 ap_s2 pos_s0 neg_s0 ipmax z_s0 uarmax ax_s1 ax_s2 ay_s0 ay_s1 ay_s2
    psx_s0 psy_s0 : Nat)
    (hsize : vmax * wmax ≤ ln_P.size) {v w : Nat} (hv : v < vmax) (hw : w < wmax) :
    (Pyx.cprobability.c_all_combined_ln_pdf ln_P a_arr umax vmax kmax mt mt_s0 wmax sigma_arr sigma_s0 a_prob uprobmax ap_s1 ap_s2 pos pos_s0 neg neg_s0 ipp ipmax
        z z_s0 ax uarmax ax_s1 ax_s2 ay ay_s0 ay_s1 ay_s2 psx psx_s0 psy psy_s0 0 lpls lsm).1.getD (v * wmax + w) (c 0)
      = accumulate (allTerm a_arr a_prob ax ay mt z pos neg ipp psx psy sigma_arr ipmax v umax uarmax uprobmax vmax kmax wmax w)
          (max umax (max uarmax uprobmax)) 0 (lsm.getD v (c 0)) := by
  rw [c_all_combined_ln_pdf_unmarginalised]
  exact getD_fillCells _ vmax wmax ln_P (c 0) hsize hv hw

theorem c_all_combined_ln_pdf_marginalised (ln_P a_arr mt sigma_arr a_prob pos neg ipp z ax ay psx psy lpls lsm : Array α)
    (umax vmax kmax mt_s0 wmax sigma_s0 uprobmax ap_s1 ap_s2 pos_s0 neg_s0 ipmax z_s0 uarmax ax_s1 ax_s2 ay_s0 ay_s1 ay_s2
    psx_s0 psy_s0 marg : Nat)
    (hm : 0 < marg) (hL : vmax ≤ lpls.size) :
    (Pyx.cprobability.c_all_combined_ln_pdf ln_P a_arr umax vmax kmax mt mt_s0 wmax sigma_arr sigma_s0 a_prob uprobmax ap_s1 ap_s2 pos pos_s0 neg neg_s0 ipp ipmax
        z z_s0 ax uarmax ax_s1 ax_s2 ay ay_s0 ay_s1 ay_s2 psx psx_s0 psy psy_s0 marg lpls lsm).1
      = (List.range wmax).foldl (fun (P : Array α) w => P.setIfInBounds w
          (margCell (fun v => allCell a_arr a_prob ax ay mt z pos neg ipp psx psy sigma_arr lsm ipmax umax uarmax uprobmax vmax kmax wmax v w) vmax)) ln_P := by
  unfold Pyx.cprobability.c_all_combined_ln_pdf
  simp only [hm, decide_true, ↓reduceIte, Id.run_bind, Id.run_pure, station_combined_all_ln_pdf_eq, set_set_accumulate]
  exact marg_loop (allCell a_arr a_prob ax ay mt z pos neg ipp psx psy sigma_arr lsm ipmax umax uarmax uprobmax vmax kmax wmax) vmax wmax
    Prod.fst (fun s => Prod.fst (Prod.snd s)) Prod.fst (fun s => Prod.snd (Prod.snd s)) Prod.fst
    (by intros; rfl) (by intros; exact ⟨rfl, rfl, rfl, rfl⟩) (by intros; exact ⟨rfl, rfl⟩) (by intros; exact ⟨rfl, rfl⟩)
    (by intros; rfl) (by intros; rfl) _ hL

/-- with `marginalised > 0`, room for `vmax` location samples in the buffer and for `wmax` cells in `ln_P`,
    cell `w` of the first result is `log (Σ_v exp (x_v - m)) + m` with `x_v` the combined station loop's value for location
    sample `v` and `m` their running `fmax` from `-inf`, or `-inf` when `m` is not `> -inf` (`PyxLoop.margCell`). -/
theorem c_all_combined_ln_pdf_eq_marginalised (ln_P a_arr mt sigma_arr a_prob pos neg ipp z ax ay psx psy lpls lsm : Array α)
    (umax vmax kmax mt_s0 wmax sigma_s0 uprobmax ap_s1 ap_s2 pos_s0 neg_s0 ipmax z_s0 uarmax ax_s1 ax_s2 ay_s0 ay_s1 ay_s2
    psx_s0 psy_s0 marg : Nat)
    (hm : 0 < marg) (hL : vmax ≤ lpls.size) (hP : wmax ≤ ln_P.size) {w : Nat} (hw : w < wmax) :
    (Pyx.cprobability.c_all_combined_ln_pdf ln_P a_arr umax vmax kmax mt mt_s0 wmax sigma_arr sigma_s0 a_prob uprobmax ap_s1 ap_s2 pos pos_s0 neg neg_s0 ipp ipmax
        z z_s0 ax uarmax ax_s1 ax_s2 ay ay_s0 ay_s1 ay_s2 psx psx_s0 psy psy_s0 marg lpls lsm).1.getD w (c 0)
      = margCell (fun v => accumulate (allTerm a_arr a_prob ax ay mt z pos neg ipp psx psy sigma_arr ipmax v umax uarmax uprobmax vmax kmax wmax w)
          (max umax (max uarmax uprobmax)) 0 (lsm.getD v (c 0))) vmax := by
  rw [c_all_combined_ln_pdf_marginalised (hm := hm) (hL := hL)]
  exact getD_foldl_set_self _ wmax ln_P (c 0) hP hw

/-! ### the theorems apply to the executable `Float` instance -/

example (a a_prob ax ay mt lnP z pos neg ipp psx psy sigma : Array Float)
    (ipmax v umax uarmax uprobmax vmax kmax wmax w index : Nat) :
    Pyx.cprobability.station_combined_all_ln_pdf a a_prob ax ay mt lnP z pos neg ipp psx psy sigma ipmax v umax uarmax uprobmax
        vmax kmax wmax w index
      = lnP.setIfInBounds index
          (accumulate (allTerm a a_prob ax ay mt z pos neg ipp psx psy sigma ipmax v umax uarmax uprobmax vmax kmax wmax w)
            (max umax (max uarmax uprobmax)) 0 (lnP.getD index (c 0))) :=
  station_combined_all_ln_pdf_eq a a_prob ax ay mt lnP z pos neg ipp psx psy sigma ipmax v umax uarmax uprobmax vmax kmax wmax w
    index

example (a ax ay mt lnP z sigma ipp psx psy : Array Float) (ipmax v umax uarmax vmax kmax wmax w index : Nat) :
    Pyx.cprobability.station_combined_polarity_ar_ln_pdf a ax ay mt lnP z sigma ipp psx psy ipmax v umax uarmax vmax kmax
        wmax w index
      = lnP.setIfInBounds index
          (accumulate (polArTerm a ax ay mt z sigma ipp psx psy ipmax v umax uarmax vmax kmax wmax w) (max umax uarmax) 0
            (lnP.getD index (c 0))) :=
  station_combined_polarity_ar_ln_pdf_eq a ax ay mt lnP z sigma ipp psx psy ipmax v umax uarmax vmax kmax wmax w index

example (a ax ay mt lnP z pos neg ipp psx psy : Array Float) (ipmax v umax uarmax vmax kmax wmax w index : Nat) :
    Pyx.cprobability.station_combined_polarity_probability_ar_ln_pdf a ax ay mt lnP z pos neg ipp psx psy ipmax v umax uarmax
        vmax kmax wmax w index
      = lnP.setIfInBounds index
          (accumulate (polProbArTerm a ax ay mt z pos neg ipp psx psy ipmax v umax uarmax vmax kmax wmax w) (max umax uarmax) 0
            (lnP.getD index (c 0))) :=
  station_combined_polarity_probability_ar_ln_pdf_eq a ax ay mt lnP z pos neg ipp psx psy ipmax v umax uarmax vmax kmax wmax w
    index

example (a a_prob mt lnP pos neg ipp sigma : Array Float) (ipmax v umax uprobmax vmax kmax wmax w index : Nat) :
    Pyx.cprobability.station_combined_pol_ln_pdf a a_prob mt lnP pos neg ipp sigma ipmax v umax uprobmax vmax kmax wmax w index
      = lnP.setIfInBounds index
          (accumulate (polPolProbTerm a a_prob mt pos neg ipp sigma ipmax v umax uprobmax vmax kmax wmax w) (max umax uprobmax) 0
            (lnP.getD index (c 0))) :=
  station_combined_pol_ln_pdf_eq a a_prob mt lnP pos neg ipp sigma ipmax v umax uprobmax vmax kmax wmax w index

example (ln_P a_arr mt sigma_arr a_prob pos neg ipp z ax ay psx psy lpls lsm : Array Float)
    (umax vmax kmax mt_s0 wmax sigma_s0 uprobmax ap_s1 ap_s2 pos_s0 neg_s0 ipmax z_s0 uarmax ax_s1 ax_s2 ay_s0 ay_s1 ay_s2
    psx_s0 psy_s0 marg : Nat)
    (hm : 0 < marg) (hL : vmax ≤ lpls.size) (hP : wmax ≤ ln_P.size) {w : Nat} (hw : w < wmax) :
    (Pyx.cprobability.c_all_combined_ln_pdf ln_P a_arr umax vmax kmax mt mt_s0 wmax sigma_arr sigma_s0 a_prob uprobmax ap_s1 ap_s2
        pos pos_s0 neg neg_s0 ipp ipmax z z_s0 ax uarmax ax_s1 ax_s2 ay ay_s0 ay_s1 ay_s2 psx psx_s0 psy psy_s0 marg lpls
        lsm).1.getD w (c 0)
      = margCell (fun v => accumulate
          (allTerm a_arr a_prob ax ay mt z pos neg ipp psx psy sigma_arr ipmax v umax uarmax uprobmax vmax kmax wmax w)
          (max umax (max uarmax uprobmax)) 0 (lsm.getD v (c 0))) vmax :=
  c_all_combined_ln_pdf_eq_marginalised ln_P a_arr mt sigma_arr a_prob pos neg ipp z ax ay psx psy lpls lsm umax vmax kmax mt_s0
    wmax sigma_s0 uprobmax ap_s1 ap_s2 pos_s0 neg_s0 ipmax z_s0 uarmax ax_s1 ax_s2 ay_s0 ay_s1 ay_s2 psx_s0 psy_s0 marg hm hL hP hw

end MTfitVerif.C20
