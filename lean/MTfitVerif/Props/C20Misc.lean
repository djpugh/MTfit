import MTfitVerif.Real.PyxRelativeLemmas
import MTfitVerif.Real.PyxMiscLemmas
/-
  C20 — the remaining array kernels of cprobability.pyx as translated in `Model/PyxKernels.lean`
  (`ln_prod`, `ln_combine`, `ln_multipliers`) and the one-dimensional reductions (`c_ln_normalise`, `c_dkl`,
  `c_dkl_uniform`) compute loop-free expressions, for every scalar type.
-/
namespace MTfitVerif.C20
open MTfitVerif.PyxLoop MTfitVerif.PyxRel MTfitVerif.PyxMisc
variable {α : Type} [Add α] [Sub α] [Mul α] [Div α] [Neg α] [Flt α]

/-! ### array kernels -/

/-- the sum over the stations of `p[u, v, w]`, left to right from 0 -/
def lnProdCell (p : Array α) (p_s0 p_s1 p_s2 v w : Nat) : α :=
  (List.range p_s0).foldl (fun acc u => acc + p.getD ((u * p_s1 + v) * p_s2 + w) (c 0)) (c 0)

/-- the whole result of `ln_prod`: a fresh `p_s1 × p_s2` array of zeros whose cells are overwritten, `v` in the outer and `w` in
    the inner loop, with the station sums -/
theorem ln_prod_eq (p : Array α) (p_s0 p_s1 p_s2 : Nat) :
    Pyx.cprobability.ln_prod p p_s0 p_s1 p_s2
      = fillVW (lnProdCell p p_s0 p_s1 p_s2) p_s1 p_s2 (Array.replicate (p_s1 * p_s2) (c 0)) := by
  unfold Pyx.cprobability.ln_prod fillVW
  simp only [forIn_range_yield, bind_pure_comp, map_pure, Id.run_pure]
  refine foldl_proj _ _ Prod.fst _ (fun s v => ?_) _
  refine foldl_proj _ _ Prod.fst _ (fun s' w => ?_) _
  rw [lnProdCell, ← foldl_add_cell_zero]
  exact foldl_proj _ _ Prod.fst _ (fun _ _ => rfl) _

/-- cell `[v, w]` of `ln_prod p` is the sum over the stations `u` of `p[u, v, w]`, left to right from 0 -/
theorem ln_prod_cell (p : Array α) (p_s0 p_s1 p_s2 : Nat) {v w : Nat} (hv : v < p_s1) (hw : w < p_s2) :
    (Pyx.cprobability.ln_prod p p_s0 p_s1 p_s2).getD (v * p_s2 + w) (c 0)
      = (List.range p_s0).foldl (fun acc u => acc + p.getD ((u * p_s1 + v) * p_s2 + w) (c 0)) (c 0) := by
  rw [ln_prod_eq]
  exact getD_fillVW _ p_s1 p_s2 _ (c 0) (Nat.le_of_eq Array.size_replicate.symm) hv hw

/-- the whole result of `ln_combine`: the loops run over the shape `s0 × s1` of the first array (`w` outer, `v` inner) and
    read the second array with its own row length `t1`; `t0` is not read -/
theorem ln_combine_eq (ln_p_1 ln_p_2 : Array α) (s0 s1 t0 t1 : Nat) :
    Pyx.cprobability.ln_combine ln_p_1 s0 s1 ln_p_2 t0 t1
      = modifyCells (fun v w z => z + ln_p_2.getD (v * t1 + w) (c 0)) (c 0) s0 s1 ln_p_1 := by
  unfold Pyx.cprobability.ln_combine modifyCells
  simp only [forIn_range_yield, bind_pure_comp, map_pure, Id.run_pure]
  refine foldl_proj _ _ Prod.fst _ (fun s w => ?_) _
  exact foldl_proj _ _ Prod.fst _ (fun _ _ => rfl) _

/-- with room for the `s0 × s1` cells, cell `[v, w]` of `ln_combine` is `ln_p_1[v, w] + ln_p_2[v, w]`, the second
    array indexed with its own row length `t1` -/
theorem ln_combine_cell (ln_p_1 ln_p_2 : Array α) (s0 s1 t0 t1 : Nat) (hsize : s0 * s1 ≤ ln_p_1.size)
    {v w : Nat} (hv : v < s0) (hw : w < s1) :
    (Pyx.cprobability.ln_combine ln_p_1 s0 s1 ln_p_2 t0 t1).getD (v * s1 + w) (c 0)
      = ln_p_1.getD (v * s1 + w) (c 0) + ln_p_2.getD (v * t1 + w) (c 0) := by
  rw [ln_combine_eq]
  exact getD_modifyCells _ (c 0) s0 s1 ln_p_1 hsize hv hw

/-- the same with both arrays of the shape `s0 × s1` -/
theorem ln_combine_cell_same_shape (ln_p_1 ln_p_2 : Array α) (s0 s1 : Nat) (hsize : s0 * s1 ≤ ln_p_1.size)
    {v w : Nat} (hv : v < s0) (hw : w < s1) :
    (Pyx.cprobability.ln_combine ln_p_1 s0 s1 ln_p_2 s0 s1).getD (v * s1 + w) (c 0)
      = ln_p_1.getD (v * s1 + w) (c 0) + ln_p_2.getD (v * s1 + w) (c 0) :=
  ln_combine_cell ln_p_1 ln_p_2 s0 s1 s0 s1 hsize hv hw

-- (the lambda's `w` is not read: the multiplier depends on `v` only)
set_option linter.unusedVariables false in
/-- the whole result of `ln_multipliers` (`multipliers_s0` is not read) -/
theorem ln_multipliers_eq (ln_p multipliers : Array α) (s0 s1 m0 : Nat) :
    Pyx.cprobability.ln_multipliers ln_p s0 s1 multipliers m0
      = modifyCells (fun v w z => z + Flt.log (multipliers.getD v (c 0))) (c 0) s0 s1 ln_p := by
  unfold Pyx.cprobability.ln_multipliers modifyCells
  simp only [forIn_range_yield, bind_pure_comp, map_pure, Id.run_pure]
  refine foldl_proj _ _ Prod.fst _ (fun s w => ?_) _
  exact foldl_proj _ _ Prod.fst _ (fun _ _ => rfl) _

/-- with room for the `s0 × s1` cells, cell `[v, w]` of `ln_multipliers` is `ln_p[v, w] + log multipliers[v]` -/
theorem ln_multipliers_cell (ln_p multipliers : Array α) (s0 s1 m0 : Nat) (hsize : s0 * s1 ≤ ln_p.size)
    {v w : Nat} (hv : v < s0) (hw : w < s1) :
    (Pyx.cprobability.ln_multipliers ln_p s0 s1 multipliers m0).getD (v * s1 + w) (c 0)
      = ln_p.getD (v * s1 + w) (c 0) + Flt.log (multipliers.getD v (c 0)) := by
  rw [ln_multipliers_eq]
  exact getD_modifyCells _ (c 0) s0 s1 ln_p hsize hv hw

/-! ### one-dimensional reductions -/

/-- running maximum of the list from `-inf`, with the code's comparison `max < x` -/
def lnMax (l : List α) : α := l.foldl (fun m x => if Flt.ltb m x = true then x else m) (-(c 1 / c 0))
/-- `Σ exp (x - m)`, left to right from 0 -/
def lnShiftSum (l : List α) (m : α) : α := l.foldl (fun s x => s + Flt.exp (x - m)) (c 0)
/-- the log of the normalising constant as the code computes it -/
def lnNormaliser (l : List α) (dV : α) : α := Flt.log (lnShiftSum l (lnMax l) * dV) + lnMax l

/-- on a list of length `n`, `c_ln_normalise` subtracts the normaliser `log (Σ exp (x - m) · dV) + m`, `m` the
    running maximum from `-inf`, from every entry -/
theorem c_ln_normalise_eq (l : List α) (dV : α) (n : Nat) (hn : l.length = n) :
    Pyx.cprobability.c_ln_normalise l dV n = l.map (fun x => x - lnNormaliser l dV) := by
  subst hn
  unfold Pyx.cprobability.c_ln_normalise lnNormaliser lnShiftSum lnMax
  rw [← foldl_range_getD l (c 0), ← foldl_range_getD l (c 0)]
  exact foldl_range_set_map (fun x => x - _) (c 0) l

/-- the Kullback–Leibler sum as the code accumulates it: terms with `ln p_i > -inf` only, left to right from 0 -/
def dklSum (p q : List α) : α :=
  (p.zip q).foldl (fun acc pq => if Flt.ltb (-(c 1 / c 0)) pq.1 = true then
      acc + (Flt.exp pq.1 * pq.1 - Flt.exp pq.1 * pq.2) else acc) (c 0)

/-- on lists of length `n`, `c_dkl` is `dklSum · dV` -/
theorem c_dkl_eq (p q : List α) (dV : α) (n : Nat) (hp : p.length = n) (hq : q.length = n) :
    Pyx.cprobability.c_dkl p q dV n = dklSum p q * dV := by
  subst hp
  unfold Pyx.cprobability.c_dkl dklSum
  rw [← foldl_range_getD₂ p q (c 0) (c 0) hq]
  exact congrArg (· * dV) (foldl_proj _ _ Prod.snd _ (fun _ _ => rfl) _)

/-- the Kullback–Leibler sum against the uniform density `1/V` as the code accumulates it -/
def dklUniformSum (p : List α) (V : α) : α :=
  p.foldl (fun acc x => if Flt.ltb (-(c 1 / c 0)) x = true then
      acc + (Flt.exp x * x + Flt.exp x * Flt.log V) else acc) (c 0)

/-- on a list of length `n`, `c_dkl_uniform` is `dklUniformSum · dV` -/
theorem c_dkl_uniform_eq (p : List α) (V dV : α) (n : Nat) (hp : p.length = n) :
    Pyx.cprobability.c_dkl_uniform p V dV n = dklUniformSum p V * dV := by
  subst hp
  unfold Pyx.cprobability.c_dkl_uniform dklUniformSum
  rw [← foldl_range_getD p (c 0)]
  exact congrArg (· * dV) (foldl_proj _ _ Prod.snd _ (fun _ _ => rfl) _)

/-! ### the theorems apply to the executable `Float` instance -/

example (p : Array Float) (p_s0 p_s1 p_s2 : Nat) {v w : Nat} (hv : v < p_s1) (hw : w < p_s2) :
    (Pyx.cprobability.ln_prod p p_s0 p_s1 p_s2).getD (v * p_s2 + w) (c 0)
      = (List.range p_s0).foldl (fun acc u => acc + p.getD ((u * p_s1 + v) * p_s2 + w) (c 0)) (c 0) :=
  ln_prod_cell p p_s0 p_s1 p_s2 hv hw

end MTfitVerif.C20
