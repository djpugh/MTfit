import MTfitVerif.Props.C05
/-
  C05 — the density `q` of the dimension-balancing draw that the reversible-jump acceptance evaluates (`jump_params(x)` with the
  `proposal_normalisation` of the sampler's `__init__`) IS the density of the draw `jump_params()` makes: a product of the truncated
  normal densities of C06Law.  (With a cos δ weight in the normalisation `q`
  integrates to 1.02: DESIGN.md §6.1, d6bce07.)
-/
namespace MTfitVerif.C05
open Acceptance Real

theorem gaussCdf_neg_zero (a : ℝ) {s : ℝ} (_hs : 0 < s) : gaussCdf (-a) 0 s = 1 - gaussCdf a 0 s := by
  rw [gaussCdf_eq, gaussCdf_eq, sub_zero, sub_zero, neg_div, neg_div, erf_neg]
  ring

/-- the coded normalisation is the product of the masses of the two normal distributions on `[-π/6, π/6]` and `[-π/2, π/2]` -/
theorem propNormOf_eq {sg sd : ℝ} (hg : 0 < sg) (hd : 0 < sd) :
    propNormOf sg sd = (gaussCdf (π / 6) 0 sg - gaussCdf (-(π / 6)) 0 sg) * (gaussCdf (π / 2) 0 sd - gaussCdf (-(π / 2)) 0 sd) := by
  simp only [propNormOf, flt_c, flt_pi, Nat.cast_one, Nat.cast_ofNat, Nat.cast_zero]
  rw [gaussCdf_neg_zero (π / 2) hd, gaussCdf_neg_zero (π / 6) hg]
  ring

theorem propNormOf_pos {sg sd : ℝ} (hg : 0 < sg) (hd : 0 < sd) : 0 < propNormOf sg sd := by
  rw [propNormOf_eq hg hd]
  exact mul_pos (gaussCdf_sub_pos 0 hg neg_pi_div_six_lt) (gaussCdf_sub_pos 0 hd neg_pi_div_two_lt)

/-- **the coded jump density is the product of the two truncated-normal densities** the acceptance rule's `truncTerm` describes — the
    densities C06Law proves for the redraw loops of `jumpDraw` -/
theorem jumpQ_eq_truncTerms (w : Widths ℝ) (hg : 0 < w.gammaDc) (hd : 0 < w.deltaDc)
    (hn : w.propNorm = propNormOf w.gammaDc w.deltaDc) (x : Tape ℝ) :
    jumpQ w x = truncTerm x.gamma 0 w.gammaDc (-(π / 6)) (π / 6) * truncTerm x.delta 0 w.deltaDc (-(π / 2)) (π / 2) := by
  rw [jumpQ, truncTerm, truncTerm, hn, propNormOf_eq hg hd, div_mul_div_comm, flt_c, Nat.cast_zero]

/-- each factor integrates to one over its range, so the coded density is a probability density on the source-type box -/
theorem jumpQ_factors_integrate_to_one {sg sd : ℝ} (hg : 0 < sg) (hd : 0 < sd) :
    (∫ g in Set.Icc (-(π / 6)) (π / 6), truncTerm g 0 sg (-(π / 6)) (π / 6)) = 1 ∧
    (∫ d in Set.Icc (-(π / 2)) (π / 2), truncTerm d 0 sd (-(π / 2)) (π / 2)) = 1 :=
  ⟨integral_Icc_truncTerm 0 hg neg_pi_div_six_lt, integral_Icc_truncTerm 0 hd neg_pi_div_two_lt⟩

example : (0 : ℝ) < 0.2 ∧ (0 : ℝ) < 0.3 := by norm_num

end MTfitVerif.C05
