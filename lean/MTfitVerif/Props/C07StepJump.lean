import MTfitVerif.Props.C07Step
import MTfitVerif.Props.C07TransD
/-
  C07 (step half, trans-dimensional part) — the UP-JUMP branch of one step of the trans-dimensional
  sampler has the law of the reversible-jump kernel `TransD.jumpK`.

  From the double-couple state `d` (orientation coordinates), on the jump branch of `transDSample`
  (`uj ≤ pj`): draw the balancing pair `(γ, δ)` with `jumpDraw` from the stream, draw a uniform `u`,
  accept iff `decide u (acceptJumpUp …)`; on rejection (and when the stream is exhausted) stay at `d`.

  (The down-jump is deterministic — `transDSample_down` — and consumes no draws; the shift branch is
  `mh_step_law_limit`.)
-/
namespace MTfitVerif.C07
open LogP Acceptance Proposal StepLaw TransD
open MeasureTheory ProbabilityTheory Filter Topology Real
open scoped ENNReal

section Jump
variable (prior : Bool → Tape ℝ → ℝ) (w : Widths ℝ) (L : Tape ℝ → LogP ℝ) (p : ℝ)

/-! ### the law of the balancing draw -/

/-- the balancing draw on a stream of `n` draws, in coordinates -/
noncomputable def jumpOpt (n : ℕ) (ω : Fin n → ℝ) : Option Lune :=
  (jumpDraw w (List.ofFn ω)).map fun r => (r.1, r.2.1)

theorem jumpOpt_eq_some {n : ℕ} {ω : Fin n → ℝ} {g : Lune} :
    jumpOpt w n ω = some g ↔ ∃ a b rest, jumpDraw w (List.ofFn ω) = some (a, b, rest) ∧ (a, b) = g := by
  simp only [jumpOpt, Option.map_eq_some_iff, Prod.exists]

/-- the limit law of the balancing draw: two independent truncated normals about zero -/
noncomputable def jumpLaw : Measure Lune :=
  (truncLaw 0 w.gammaDc (-(π / 6)) (π / 6)).prod (truncLaw 0 w.deltaDc (-(π / 2)) (π / 2))

/-- probability that both loops of the balancing draw succeed within `n` draws -/
noncomputable def cJump : ℕ → ℝ≥0∞ :=
  loopSeq (gaussianReal 0 1) (absLe (π / 6)) 0 w.gammaDc
    (loopSeq (gaussianReal 0 1) (absLe (π / 2)) 0 w.deltaDc fun _ => 1)

theorem cJump_tendsto (hg : 0 < w.gammaDc) (hd : 0 < w.deltaDc) :
    Tendsto (cJump w) atTop (𝓝 1) :=
  (jump_stage w hg hd MeasurableSet.univ MeasurableSet.univ).lim

theorem jumpLaw_prob (hg : 0 < w.gammaDc) (hd : 0 < w.deltaDc) :
    IsProbabilityMeasure (jumpLaw w) := by
  have := truncLaw_prob 0 hg neg_pi_div_six_lt
  have := truncLaw_prob 0 hd neg_pi_div_two_lt
  unfold jumpLaw
  infer_instance

theorem jump_box_law (hg : 0 < w.gammaDc) (hd : 0 < w.deltaDc) {Bg Bd : Set ℝ}
    (hBg : MeasurableSet Bg) (hBd : MeasurableSet Bd) (n : ℕ) :
    MeasurableSet (ev (jumpOpt w n) (Bg ×ˢ Bd)) ∧
      Measure.pi (fun _ : Fin n => gaussianReal 0 1) (ev (jumpOpt w n) (Bg ×ˢ Bd)) =
        cJump w n * jumpLaw w (Bg ×ˢ Bd) := by
  have h := (jump_stage w hg hd hBg hBd).ev_law (prop := jumpOpt w n) (A := Bg ×ˢ Bd) fun ω =>
    mem_ev_map.trans ((Prod.exists.trans (exists_congr fun _ => Prod.exists)).trans
      (jumpDraw_iff w Bg Bd (List.ofFn ω)))
  rwa [mul_one, ← Measure.prod_prod] at h

/-- **finite-stream law of the balancing draw** on every measurable set of `(γ, δ)` -/
theorem jumpOpt_law (hg : 0 < w.gammaDc) (hd : 0 < w.deltaDc) (n : ℕ) (A : Set Lune)
    (hA : MeasurableSet A) :
    MeasurableSet (ev (jumpOpt w n) A) ∧
      Measure.pi (fun _ : Fin n => gaussianReal 0 1) (ev (jumpOpt w n) A) =
        cJump w n * jumpLaw w A := by
  have := jumpLaw_prob w hg hd
  refine ev_law_of_piSystem (Measure.pi fun _ : Fin n => gaussianReal 0 1) (jumpOpt w n)
    (jumpLaw w) (cJump w n) (GenPiSystem.measurableSet.prod GenPiSystem.measurableSet)
    (fun A hA => ?_) A hA
  obtain ⟨Bg, hBg, Bd, hBd, rfl⟩ := hA
  exact jump_box_law w hg hd hBg hBd n

/-- the balancing draw has the density `jumpQ` (`jump_params(x)` of the code) on the lune box, when
    `proposal_normalisation` is what `__init__` computes -/
theorem jumpLaw_eq_withDensity (hg : 0 < w.gammaDc) (hd : 0 < w.deltaDc)
    (hn : w.propNorm = propNormOf w.gammaDc w.deltaDc) (d : Ori) :
    jumpLaw w = luneBox.withDensity (jumpDens w d) := by
  unfold jumpLaw truncLaw luneBox
  rw [prod_withDensity (measurable_truncTerm_left 0 w.gammaDc (-(π / 6)) (π / 6)).ennreal_ofReal
    (measurable_truncTerm_left 0 w.deltaDc (-(π / 2)) (π / 2)).ennreal_ofReal]
  congr 1
  funext g
  rw [jumpDens, C05.jumpQ_eq_truncTerms w hg hd hn,
    ENNReal.ofReal_mul (C05.truncTerm_pos _ 0 hg neg_pi_div_six_lt).le]
  rfl

/-! ### the up-jump step -/

/-- the up-jump step from the double-couple state `d`: `transDSample` with the jump draw `uj`, the
    accept draw `u`; on rejection or an exhausted stream the chain stays at `d` -/
noncomputable def jumpStepNext (pj : ℝ) (d : Ori) (uj : ℝ) (zs : List ℝ) (u : ℝ) : Ori ⊕ Ori × Lune :=
  match transDSample true pj w (tapeDC d) uj zs with
  | some (x, _, _) =>
    if Acceptance.decide u (acceptJumpUp prior w (tapeDC d) x p (L (tapeDC d)) (L x)) then
      Sum.inr (d, (x.gamma, x.delta))
    else Sum.inl d
  | none => Sum.inl d

theorem jumpStepNext_some {pj : ℝ} (d : Ori) {uj : ℝ} (hu : uj ≤ pj) {zs : List ℝ} {a b : ℝ}
    {rest : List ℝ} (h : jumpDraw w zs = some (a, b, rest)) (u : ℝ) :
    jumpStepNext prior w L p pj d uj zs u =
      if u < acceptJumpUp prior w (tapeDC d) (tapeMT (d, (a, b))) p (L (tapeDC d))
          (L (tapeMT (d, (a, b)))) then Sum.inr (d, (a, b)) else Sum.inl d := by
  unfold jumpStepNext
  rw [transDSample_up pj w d hu, h]
  simp only [Option.map_some, C05.decide_iff]
  rfl

theorem jumpStepNext_none {pj : ℝ} (d : Ori) {uj : ℝ} (hu : uj ≤ pj) {zs : List ℝ}
    (h : jumpDraw w zs = none) (u : ℝ) :
    jumpStepNext prior w L p pj d uj zs u = Sum.inl d := by
  simp [jumpStepNext, transDSample_up pj w d hu, h]

/-- **Up-jump step, stream of `n` draws (exact).** -/
theorem jump_step_law_finite (hp : ∀ b t, 0 ≤ prior b t) (hw : C05.WidthsPos w) (hp0 : 0 ≤ p)
    (hp1 : p ≤ 1)
    (hpD : Measurable fun d : Ori => prior true (tapeDC d))
    (hpM : Measurable fun m : Ori × Lune => prior false (tapeMT m))
    (hLD : Measurable fun d : Ori => toProb (L (tapeDC d)))
    (hLM : Measurable fun m : Ori × Lune => toProb (L (tapeMT m)))
    {pj uj : ℝ} (hu : uj ≤ pj) (d : Ori) (n : ℕ) {B : Set (Ori ⊕ Ori × Lune)}
    (hB : MeasurableSet B) :
    ((Measure.pi fun _ : Fin n => gaussianReal 0 1).prod unif)
        {q | jumpStepNext prior w L p pj d uj (List.ofFn q.1) q.2 ∈ B} =
      cJump w n * ∫⁻ g in {g | Sum.inr (d, g) ∈ B}, accUp prior w L p d g ∂(jumpLaw w) +
        (1 - cJump w n * ∫⁻ g, accUp prior w L p d g ∂(jumpLaw w)) * B.indicator 1 (Sum.inl d) := by
  obtain ⟨_, _, _, _, _, hg, hd, _⟩ := id hw
  exact step_law (Measure.pi fun _ : Fin n => gaussianReal 0 1) (jumpOpt w n)
    (ι := fun g : Lune => (Sum.inr (d, g) : Ori ⊕ Ori × Lune))
    (measurable_inr.comp measurable_prodMk_left) (Sum.inl d)
    (a := fun g => acceptJumpUp prior w (tapeDC d) (tapeMT (d, g)) p (L (tapeDC d)) (L (tapeMT (d, g))))
    ((measurable_acceptJumpUp prior w L p hpD hpM hLD hLM).comp measurable_prodMk_left)
    (fun g => (acceptJumpUp_mem_Icc prior w p hp hw hp0 hp1 _ _ _ _).2)
    (jumpLaw w) (cJump w n) (jumpOpt_law w hg hd n)
    (fun ω u => jumpStepNext prior w L p pj d uj (List.ofFn ω) u)
    (fun ω θ hθ u => by
      obtain ⟨a, b, rest, hab, rfl⟩ := (jumpOpt_eq_some w).mp hθ
      exact jumpStepNext_some prior w L p d hu hab u)
    (fun ω hω u => jumpStepNext_none prior w L p d hu (Option.map_eq_none_iff.mp hω) u)
    hB

/-- **The up-jump step has the law of the reversible-jump kernel** `TransD.jumpK` (limit of
    a long stream): from the double-couple state `d`, the next state lies in `B` with probability
    `∫_{g : (d,g) ∈ B} jumpQ · acceptJumpUp dg + (1 − ∫ jumpQ · acceptJumpUp dg) · 1_B(d)`. -/
theorem jump_step_law_limit (hp : ∀ b t, 0 ≤ prior b t) (hw : C05.WidthsPos w) (hp0 : 0 ≤ p)
    (hp1 : p ≤ 1) (hn : w.propNorm = propNormOf w.gammaDc w.deltaDc)
    (hpD : Measurable fun d : Ori => prior true (tapeDC d))
    (hpM : Measurable fun m : Ori × Lune => prior false (tapeMT m))
    (hLD : Measurable fun d : Ori => toProb (L (tapeDC d)))
    (hLM : Measurable fun m : Ori × Lune => toProb (L (tapeMT m)))
    {pj uj : ℝ} (hu : uj ≤ pj) (d : Ori) {B : Set (Ori ⊕ Ori × Lune)} (hB : MeasurableSet B) :
    Tendsto (fun n : ℕ => ((Measure.pi fun _ : Fin n => gaussianReal 0 1).prod unif)
        {q | jumpStepNext prior w L p pj d uj (List.ofFn q.1) q.2 ∈ B}) atTop
      (𝓝 (jumpK luneBox (jumpDens w) (accUp prior w L p) (accDown prior w L p) (Sum.inl d) B)) := by
  obtain ⟨_, _, _, _, _, hg, hd, _⟩ := id hw
  have hΛ := jumpLaw_prob w hg hd
  refine (tendsto_congr fun n =>
    jump_step_law_finite prior w L p hp hw hp0 hp1 hpD hpM hLD hLM hu d n hB).mpr ?_
  have hS : MeasurableSet {g : Lune | Sum.inr (d, g) ∈ B} :=
    (measurable_inr.comp measurable_prodMk_left) hB
  have hacc : Measurable fun g : Lune => accUp prior w L p d g :=
    ((measurable_acceptJumpUp prior w L p hpD hpM hLD hLM).comp
      measurable_prodMk_left).ennreal_ofReal
  have hdens : Measurable (jumpDens w d) :=
    ((measurable_jumpQ_MT w).comp measurable_prodMk_left).ennreal_ofReal
  have ha1 := fun g : Lune => (acceptJumpUp_mem_Icc prior w p hp hw hp0 hp1 (tapeDC d) (tapeMT (d, g))
    (L (tapeDC d)) (L (tapeMT (d, g)))).2
  have hlim : jumpK luneBox (jumpDens w) (accUp prior w L p) (accDown prior w L p) (Sum.inl d) B =
      ∫⁻ g in {g | Sum.inr (d, g) ∈ B}, accUp prior w L p d g ∂(jumpLaw w) +
        (1 - ∫⁻ g, accUp prior w L p d g ∂(jumpLaw w)) * B.indicator 1 (Sum.inl d) := by
    rw [jumpLaw_eq_withDensity w hg hd hn d,
      setLIntegral_withDensity_eq_setLIntegral_mul _ hdens hacc hS,
      lintegral_withDensity_eq_lintegral_mul _ hdens hacc]
    rfl
  rw [hlim]
  exact step_law_tendsto (jumpLaw w) ha1 (cJump_tendsto w hg hd) {g | Sum.inr (d, g) ∈ B} B (Sum.inl d)

end Jump
end MTfitVerif.C07
