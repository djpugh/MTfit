import MTfitVerif.Real.ProposalLawLemmas
import MTfitVerif.Real.ProposalJointLemmas
/-
  C06 (law) — "Proposals are distributed as the truncated Gaussian about the current state that
  the acceptance rule assumes".

  `Props/C06.lean` proves the support (`firstOk_spec`: the value returned by a redraw loop is the
  first in-range candidate).  This file proves the LAW.  The stream consumed by the model function
  `firstOk ok m s` is taken to be `n` independent draws with a common law `ν`, i.e. a point `ω` of
  `Fin n → ℝ` under the product measure `Measure.pi (fun _ : Fin n => ν)`, handed to the model as
  the list `List.ofFn ω`.

  For standard-normal draws and an interval range `[lo, hi]` the limit law has density
  `Acceptance.truncTerm · m s lo hi`, the very factor `transPdf` (the acceptance rule) uses.
-/
namespace MTfitVerif.C06
open Acceptance Proposal MeasureTheory ProbabilityTheory Filter Topology

/-- **Finite-stream law.**  With `n` independent draws of law `ν`, the probability that the redraw
    loop returns a value in `A` is `(∑_{k<n} ν(Sᶜ)^k) · ν(S ∩ cand⁻¹ A)`, where
    `S = {z | ok (m + s z)}` is the set of in-range draws and `cand z = m + s z`.
    (`A` need not be measurable; only `S` has to be.) -/
theorem firstOk_law_finite (ν : Measure ℝ) [IsProbabilityMeasure ν] (ok : ℝ → Bool) (m s : ℝ)
    (hS : MeasurableSet {z : ℝ | ok (m + s * z) = true}) (n : ℕ) (A : Set ℝ) :
    Measure.pi (fun _ : Fin n => ν)
        {ω : Fin n → ℝ | ∃ v rest, firstOk ok m s (List.ofFn ω) = some (v, rest) ∧ v ∈ A} =
      (∑ k ∈ Finset.range n, ν {z : ℝ | ok (m + s * z) = true}ᶜ ^ k) *
        ν ({z : ℝ | ok (m + s * z) = true} ∩ (fun z => m + s * z) ⁻¹' A) :=
  (stageLaw_firstOk ν ok m s hS A).law n

/-- **Exhaustion.**  The probability that all `n` draws are out of range (the model returns
    `none`) is `ν(Sᶜ)^n`. -/
theorem firstOk_exhaust (ν : Measure ℝ) [IsProbabilityMeasure ν] (ok : ℝ → Bool) (m s : ℝ) (n : ℕ) :
    Measure.pi (fun _ : Fin n => ν) {ω : Fin n → ℝ | firstOk ok m s (List.ofFn ω) = none} =
      ν {z : ℝ | ok (m + s * z) = true}ᶜ ^ n := by
  have h : {ω : Fin n → ℝ | firstOk ok m s (List.ofFn ω) = none} =
      Set.pi Set.univ fun _ : Fin n => (okSet ok m s)ᶜ := by
    ext ω
    simp only [Set.mem_ofPred_eq, firstOk_eq_none_iff, List.forall_mem_ofFn_iff, Set.mem_pi,
      Set.mem_univ, forall_true_left, Set.mem_compl_iff, okSet]
  rw [h, Measure.pi_pi, Finset.prod_const, Finset.card_univ, Fintype.card_fin]
  rfl

/-- **Limit law.**  As the stream gets longer the probability of returning a value in `A` tends to
    `ν(S ∩ cand⁻¹ A) / ν(S)`: the conditional law of the candidate given that it is in range.
    (In `ℝ≥0∞` the statement also holds for `ν S = 0`, where both sides are `0`, so the hypothesis
    `0 < ν S` of the informal statement is not needed here; it is what makes the limit a
    probability law, see `firstOk_law_limit_univ`.) -/
theorem firstOk_law_limit (ν : Measure ℝ) [IsProbabilityMeasure ν] (ok : ℝ → Bool) (m s : ℝ)
    (hS : MeasurableSet {z : ℝ | ok (m + s * z) = true}) (A : Set ℝ) :
    Tendsto (fun n : ℕ => Measure.pi (fun _ : Fin n => ν)
        {ω : Fin n → ℝ | ∃ v rest, firstOk ok m s (List.ofFn ω) = some (v, rest) ∧ v ∈ A}) atTop
      (𝓝 (ν ({z : ℝ | ok (m + s * z) = true} ∩ (fun z => m + s * z) ⁻¹' A) /
          ν {z : ℝ | ok (m + s * z) = true})) :=
  (stageLaw_firstOk ν ok m s hS A).measure_tendsto

/-- if the range has positive probability the loop terminates almost surely in the limit: the
    limit law has total mass one -/
theorem firstOk_law_limit_univ (ν : Measure ℝ) [IsProbabilityMeasure ν] (ok : ℝ → Bool) (m s : ℝ)
    (hS : MeasurableSet {z : ℝ | ok (m + s * z) = true})
    (hpos : 0 < ν {z : ℝ | ok (m + s * z) = true}) :
    Tendsto (fun n : ℕ => Measure.pi (fun _ : Fin n => ν)
        {ω : Fin n → ℝ | ∃ v rest, firstOk ok m s (List.ofFn ω) = some (v, rest) ∧ v ∈ Set.univ})
      atTop (𝓝 1) := by
  have h := firstOk_law_limit ν ok m s hS Set.univ
  rw [Set.preimage_univ, Set.inter_univ, ENNReal.div_self hpos.ne' (measure_ne_top _ _)] at h
  exact h

/-- real-valued form of `firstOk_law_limit` -/
theorem firstOk_law_limit_real (ν : Measure ℝ) [IsProbabilityMeasure ν] (ok : ℝ → Bool) (m s : ℝ)
    (hS : MeasurableSet {z : ℝ | ok (m + s * z) = true})
    (hpos : 0 < ν {z : ℝ | ok (m + s * z) = true}) (A : Set ℝ) :
    Tendsto (fun n : ℕ => (Measure.pi (fun _ : Fin n => ν)).real
        {ω : Fin n → ℝ | ∃ v rest, firstOk ok m s (List.ofFn ω) = some (v, rest) ∧ v ∈ A}) atTop
      (𝓝 (ν.real ({z : ℝ | ok (m + s * z) = true} ∩ (fun z => m + s * z) ⁻¹' A) /
          ν.real {z : ℝ | ok (m + s * z) = true})) := by
  have h := (ENNReal.tendsto_toReal (ENNReal.div_ne_top (measure_ne_top _ _) hpos.ne')).comp
    (firstOk_law_limit ν ok m s hS A)
  rwa [ENNReal.toReal_div] at h

/-! ### standard-normal draws, interval ranges: the truncated Gaussian of the acceptance rule -/

/-- the in-range set of an interval predicate is measurable -/
theorem okSet_measurable (ok : ℝ → Bool) (m s lo hi : ℝ) (hok : ∀ x, ok x = true ↔ lo ≤ x ∧ x ≤ hi) :
    MeasurableSet {z : ℝ | ok (m + s * z) = true} :=
  okSet_measurable' m s hok

/-- **The limit law is the truncated Gaussian of the acceptance rule** (general measurable `A`):
    for standard-normal draws, width `s > 0` and a range predicate `ok x ↔ lo ≤ x ≤ hi`, the
    probability that the loop returns a value in `A` tends to
    `∫_{A ∩ [lo,hi]} truncTerm x m s lo hi dx`, where
    `truncTerm x m s lo hi = gaussPdf x m s / (gaussCdf hi m s − gaussCdf lo m s)` is the model
    function `transPdf` is built from. -/
theorem firstOk_law_truncated_gaussian' (ok : ℝ → Bool) (m : ℝ) {s lo hi : ℝ} (hs : 0 < s)
    (hlh : lo < hi) (hok : ∀ x, ok x = true ↔ lo ≤ x ∧ x ≤ hi) {A : Set ℝ} (hA : MeasurableSet A) :
    Tendsto (fun n : ℕ => Measure.pi (fun _ : Fin n => gaussianReal 0 1)
        {ω : Fin n → ℝ | ∃ v rest, firstOk ok m s (List.ofFn ω) = some (v, rest) ∧ v ∈ A}) atTop
      (𝓝 (ENNReal.ofReal (∫ x in A ∩ Set.Icc lo hi, truncTerm x m s lo hi))) := by
  have h := firstOk_law_limit (gaussianReal 0 1) ok m s (okSet_measurable' m s hok) A
  rwa [← okSet, gaussian_ratio_eq ok m hs hlh hok hA] at h

/-- **The limit law is the truncated Gaussian of the acceptance rule**: for measurable
    `A ⊆ [lo, hi]` the probability that the loop returns a value in `A` tends to
    `∫_A truncTerm x m s lo hi dx`. -/
theorem firstOk_law_truncated_gaussian (ok : ℝ → Bool) (m : ℝ) {s lo hi : ℝ} (hs : 0 < s)
    (hlh : lo < hi) (hok : ∀ x, ok x = true ↔ lo ≤ x ∧ x ≤ hi) {A : Set ℝ} (hA : MeasurableSet A)
    (hAsub : A ⊆ Set.Icc lo hi) :
    Tendsto (fun n : ℕ => Measure.pi (fun _ : Fin n => gaussianReal 0 1)
        {ω : Fin n → ℝ | ∃ v rest, firstOk ok m s (List.ofFn ω) = some (v, rest) ∧ v ∈ A}) atTop
      (𝓝 (ENNReal.ofReal (∫ x in A, truncTerm x m s lo hi))) := by
  have h := firstOk_law_truncated_gaussian' ok m hs hlh hok hA
  rwa [Set.inter_eq_left.mpr hAsub] at h

/-- the truncated-Gaussian term is a probability density on `[lo, hi]` -/
theorem truncTerm_integral_eq_one (m : ℝ) {s lo hi : ℝ} (hs : 0 < s) (hlh : lo < hi) :
    ∫ x in Set.Icc lo hi, truncTerm x m s lo hi = 1 :=
  integral_Icc_truncTerm m hs hlh

/-- the `|x| ≤ b` loops of the model (`γ`, `δ`, `σ` of `shiftSample`; the balancing draw of
    `jumpDraw`): the limit law has the density `truncTerm x m s (-b) b` used by `transPdf` -/
theorem firstOk_law_absLe (m : ℝ) {s b : ℝ} (hs : 0 < s) (hb : 0 < b) {A : Set ℝ}
    (hA : MeasurableSet A) (hAsub : A ⊆ Set.Icc (-b) b) :
    Tendsto (fun n : ℕ => Measure.pi (fun _ : Fin n => gaussianReal 0 1)
        {ω : Fin n → ℝ | ∃ v rest, firstOk (absLe b) m s (List.ofFn ω) = some (v, rest) ∧ v ∈ A})
      atTop (𝓝 (ENNReal.ofReal (∫ x in A, truncTerm x m s (-b) b))) :=
  firstOk_law_truncated_gaussian (absLe b) m hs (neg_lt_self hb) (absLe_iff_Icc b) hA hAsub

/-- the `0 ≤ x ≤ 1` loop of the model (`h` of `shiftSample`): the limit law has the density
    `truncTerm x m s 0 1` used by `transPdf` -/
theorem firstOk_law_inUnit (m : ℝ) {s : ℝ} (hs : 0 < s) {A : Set ℝ}
    (hA : MeasurableSet A) (hAsub : A ⊆ Set.Icc 0 1) :
    Tendsto (fun n : ℕ => Measure.pi (fun _ : Fin n => gaussianReal 0 1)
        {ω : Fin n → ℝ | ∃ v rest, firstOk inUnit m s (List.ofFn ω) = some (v, rest) ∧ v ∈ A})
      atTop (𝓝 (ENNReal.ofReal (∫ x in A, truncTerm x m s 0 1))) :=
  firstOk_law_truncated_gaussian inUnit m hs one_pos (fun x => inUnit_iff x) hA hAsub

/-! ### instantiation of the hypotheses -/

/-- the hypotheses of `firstOk_law_finite` / `firstOk_law_limit` are satisfiable: standard-normal
    draws and the source-type range `|γ| ≤ π/6` -/
example (m s : ℝ) (n : ℕ) (A : Set ℝ) :
    Measure.pi (fun _ : Fin n => gaussianReal 0 1)
        {ω : Fin n → ℝ | ∃ v rest, firstOk (absLe (Real.pi / 6)) m s (List.ofFn ω) = some (v, rest) ∧ v ∈ A} =
      (∑ k ∈ Finset.range n, gaussianReal 0 1 {z : ℝ | absLe (Real.pi / 6) (m + s * z) = true}ᶜ ^ k) *
        gaussianReal 0 1 ({z : ℝ | absLe (Real.pi / 6) (m + s * z) = true} ∩ (fun z => m + s * z) ⁻¹' A) :=
  firstOk_law_finite (gaussianReal 0 1) (absLe (Real.pi / 6)) m s
    (okSet_measurable' m s (absLe_iff_Icc _)) n A

/-- the hypotheses of `firstOk_law_truncated_gaussian` are satisfiable: the `γ` loop of
    `shiftSample` about the state `γ₀ = 0.1` with width `0.2`, `A` the upper half of the range -/
example :
    Tendsto (fun n : ℕ => Measure.pi (fun _ : Fin n => gaussianReal 0 1)
        {ω : Fin n → ℝ | ∃ v rest, firstOk (absLe (Real.pi / 6)) 0.1 0.2 (List.ofFn ω) = some (v, rest) ∧
          v ∈ Set.Icc 0 (Real.pi / 6)})
      atTop (𝓝 (ENNReal.ofReal
        (∫ x in Set.Icc 0 (Real.pi / 6), truncTerm x 0.1 0.2 (-(Real.pi / 6)) (Real.pi / 6)))) :=
  firstOk_law_absLe 0.1 (by norm_num) pi_div_six_pos measurableSet_Icc
    (Set.Icc_subset_Icc (neg_nonpos.mpr pi_div_six_pos.le) le_rfl)

end MTfitVerif.C06
