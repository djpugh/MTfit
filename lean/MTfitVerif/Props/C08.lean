import MTfitVerif.Real.RandomMTLemmas
import MTfitVerif.Props.C12
import MTfitVerif.Props.C14
/-
  C08 — random source sampling draws from the stated prior (algebraic half: unit norm,
  equivariance, orthonormal triad, eigenvalue pattern; the laws and their rotation invariance are in
  `Props/C08Measure.lean`; that NumPy's draws are i.i.d. normal is tested statistically).
-/
namespace MTfitVerif.C08
open MTfitVerif.Convert MTfitVerif.RandomMT

def sq6 (v : V6 ℝ) : ℝ := v.a^2 + v.b^2 + v.c^2 + v.d^2 + v.e^2 + v.f^2

theorem sq6_eq_sqs (v : V6 ℝ) : sq6 v = sqs v := by
  simp only [sq6, sqs]; ring

/-- every sampled full moment tensor is a unit six-vector -/
theorem randomMt_unit (v : V6 ℝ) (h : sq6 v ≠ 0) : sq6 (randomMt v) = 1 := by
  have e : sq6 (randomMt v) = sq6 v / v.norm ^ 2 := by
    simp only [randomMt_eq, sq6, div_pow, ← add_div]
  rw [e, v6_norm_sq, ← sq6_eq_sqs, div_self h]

/-- the sample depends on the draw only through its direction -/
theorem randomMt_scale (v : V6 ℝ) {k : ℝ} (hk : 0 < k) :
    randomMt ⟨k * v.a, k * v.b, k * v.c, k * v.d, k * v.e, k * v.f⟩ = randomMt v := by
  rw [randomMt_eq, randomMt_eq, v6_norm_scale v hk.le]
  simp only [mul_div_mul_left _ _ hk.ne']

/-- equivariance: normalising commutes with every linear, norm-preserving map `Q` of six-space
    (with rotation invariance of the i.i.d. Gaussian this is uniformity on the 6-sphere) -/
theorem randomMt_equivariant (Q : V6 ℝ → V6 ℝ)
    (hlin : ∀ (k : ℝ) (v : V6 ℝ), Q ⟨v.a / k, v.b / k, v.c / k, v.d / k, v.e / k, v.f / k⟩
        = ⟨(Q v).a / k, (Q v).b / k, (Q v).c / k, (Q v).d / k, (Q v).e / k, (Q v).f / k⟩)
    (hnorm : ∀ v : V6 ℝ, (Q v).norm = v.norm) (v : V6 ℝ) :
    randomMt (Q v) = Q (randomMt v) := by
  rw [randomMt_eq, randomMt_eq, hnorm, hlin]

/-- the random triad is orthonormal whenever the draws are not degenerate -/
theorem triad_orthonormal (araw x : V3 ℝ) (ha : V3.dot araw araw ≠ 0)
    (hx : V3.dot (V3.cross araw.unit x) (V3.cross araw.unit x) ≠ 0) :
    let a := (triad araw x).1; let b := (triad araw x).2.1; let cc := (triad araw x).2.2
    V3.dot a a = 1 ∧ V3.dot b b = 1 ∧ V3.dot cc cc = 1 ∧ V3.dot a b = 0 ∧ V3.dot a cc = 0 ∧ V3.dot b cc = 0 := by
  simp only [triad_eq]
  have haa : V3.dot araw.unit araw.unit = 1 := V3.dot_unit_unit ha
  have hbb : V3.dot (V3.cross araw.unit x).unit (V3.cross araw.unit x).unit = 1 := V3.dot_unit_unit hx
  have hab : V3.dot araw.unit (V3.cross araw.unit x).unit = 0 := by
    rw [V3.unit_eq (V3.cross _ _), V3.dot_sdiv_right, V3.dot_cross_self_left, zero_div]
  have hcc := dot_cross_self_of_orthonormal haa hbb hab
  rw [V3.unit_of_unit hcc]
  exact ⟨haa, hbb, hcc, hab, V3.dot_cross_self_left _ _, V3.dot_cross_self_right _ _⟩

/-- Frobenius norm² of `Σ eₖ vₖvₖᵀ` for an orthonormal triad is the norm² of the eigenvalues -/
theorem rebuild_frob2 (diag a b cc : V3 ℝ) (ha : V3.dot a a = 1) (hb : V3.dot b b = 1) (hc : V3.dot cc cc = 1)
    (hab : V3.dot a b = 0) (hac : V3.dot a cc = 0) (hbc : V3.dot b cc = 0) :
    C12.frob2 (rebuild a b cc diag) = diag.x^2 + diag.y^2 + diag.z^2 :=
  rebuild_frob_orthonormal diag ha hb hc hab hac hbc

/-- the six-vector of `Σ eₖ vₖvₖᵀ` for an orthonormal triad and eigenvalues of unit norm is a unit six-vector -/
theorem eigvecs_unit (diag a b cc : V3 ℝ) (ha : V3.dot a a = 1) (hb : V3.dot b b = 1) (hc : V3.dot cc cc = 1)
    (hab : V3.dot a b = 0) (hac : V3.dot a cc = 0) (hbc : V3.dot b cc = 0)
    (hd : diag.x^2 + diag.y^2 + diag.z^2 = 1) : sq6 (eigvecsToMt6 diag a b cc) = 1 := by
  have hf : C12.frob2 (rebuild a b cc diag) = 1 := by
    rw [rebuild_frob2 diag a b cc ha hb hc hab hac hbc, hd]
  exact C12.mt33ToMt6_unit (rebuild a b cc diag) (by rw [hf]; exact one_ne_zero)

theorem dc_pattern : (dcDiag : V3 ℝ).x^2 + (dcDiag : V3 ℝ).y^2 + (dcDiag : V3 ℝ).z^2 = 1 ∧
    (dcDiag : V3 ℝ).x + (dcDiag : V3 ℝ).y + (dcDiag : V3 ℝ).z = 0 ∧ (dcDiag : V3 ℝ).y = 0 := by
  rw [dcDiag_eq]
  refine ⟨?_, by ring, rfl⟩
  simp only [neg_sq, div_sqrt_sq _ zero_le_two]; norm_num

/-- a sampled double-couple has exactly the double-couple eigenvalue pattern: its tensor maps the
    three axes to `(1/√2) a`, `0`, `−(1/√2) c` -/
theorem dc_eigen_pattern (a b cc : V3 ℝ) (ha : V3.dot a a = 1) (hb : V3.dot b b = 1) (hc : V3.dot cc cc = 1)
    (hab : V3.dot a b = 0) (hac : V3.dot a cc = 0) (hbc : V3.dot b cc = 0) :
    let m := mt6ToMt33 (eigvecsToMt6 (dcDiag : V3 ℝ) a b cc)
    let app (v : V3 ℝ) : V3 ℝ := ⟨m.xx * v.x + m.xy * v.y + m.xz * v.z, m.xy * v.x + m.yy * v.y + m.yz * v.z, m.xz * v.x + m.yz * v.y + m.zz * v.z⟩
    app a = V3.smul (1 / √2) a ∧ app b = V3.smul 0 b ∧ app cc = V3.smul (-(1 / √2)) cc := by
  have hf : C12.frob2 (rebuild a b cc (dcDiag : V3 ℝ)) = 1 := by
    rw [rebuild_frob2 _ a b cc ha hb hc hab hac hbc]; exact dc_pattern.1
  have hm : mt6ToMt33 (eigvecsToMt6 (dcDiag : V3 ℝ) a b cc) = rebuild a b cc (dcDiag : V3 ℝ) :=
    C12.mt6_of_mt33_of_unit _ hf
  simp only [hm]
  have h1 := C14.rebuild_eigen a b cc (dcDiag : V3 ℝ) ha hb hc hab hac hbc
  have h2 := C14.rebuild_eigen_N a b cc (dcDiag : V3 ℝ) hb hab hbc
  have h3 := C14.rebuild_eigen_P a b cc (dcDiag : V3 ℝ) hc hac hbc
  simp only at h1 h2 h3
  rw [h1, h2, h3, dcDiag_eq]
  exact ⟨rfl, rfl, rfl⟩

/-- the CLVD pattern has unit norm and zero trace for either sign -/
theorem clvd_pattern (u : ℝ) :
    (clvdDiag u).x^2 + (clvdDiag u).y^2 + (clvdDiag u).z^2 = 1 ∧ (clvdDiag u).x + (clvdDiag u).y + (clvdDiag u).z = 0 ∧
    (clvdDiag u).y = (clvdDiag u).z := by
  rw [clvdDiag_eq]
  split_ifs
  · refine ⟨?_, by ring, rfl⟩
    simp only [neg_sq, div_sqrt_sq _ (by norm_num : (0 : ℝ) ≤ 6)]; norm_num
  · refine ⟨?_, by ring, rfl⟩
    simp only [neg_sq, div_sqrt_sq _ (by norm_num : (0 : ℝ) ≤ 6)]; norm_num

end MTfitVerif.C08
