import MTfitVerif.Real.RatioPdfLemmas
/-
  C03 — the amplitude-ratio likelihood is the density of |X/Y| for two independent Gaussians.
-/
namespace MTfitVerif.C03
open LogP RatioPdf

/-- Hinkley's coefficient `a` is strictly positive, so every divisor in the closed form is
    non-zero: the density is defined (no 0/0) for every positive `σx, σy`. -/
theorem coefA_pos (z : ℝ) {σx σy : ℝ} (hx : 0 < σx) (hy : 0 < σy) : 0 < coefA z σx σy := by
  rw [coefA_eq]; exact Real.sqrt_pos.mpr (coefA_arg_pos z hx hy)

/-- the algebraic heart of Hinkley's derivation: completing the square in `y` -/
theorem exponent_identity (z μx μy : ℝ) {σx σy : ℝ} (hx : 0 < σx) (hy : 0 < σy) (y : ℝ) :
    let a := coefA z σx σy
    let b := coefB z μx μy σx σy
    let cc := coefC μx μy σx σy
    (z * y - μx)^2 / σx^2 + (y - μy)^2 / σy^2 = a^2 * (y - b / a^2)^2 + cc - b^2 / a^2 := by
  intro a b cc
  have ha : a ^ 2 ≠ 0 := pow_ne_zero 2 (coefA_pos z hx hy).ne'
  -- the left side is the quadratic `a² y² − 2 b y + c` in `y`
  rw [← quadratic_complete_square ha b cc y, sq a, coefA_mul_self z hx hy]
  unfold b cc coefB coefC
  ring

/-- Cauchy–Schwarz: the exponent of `d` is never positive (`d ≤ 1`, no overflow) -/
theorem d_exponent_nonpos (z μx μy : ℝ) {σx σy : ℝ} (hx : 0 < σx) (hy : 0 < σy) :
    let a := coefA z σx σy
    let b := coefB z μx μy σx σy
    let cc := coefC μx μy σx σy
    (b * b - cc * (a * a)) / (2 * (a * a)) ≤ 0 := by
  intro a b cc
  have ha : 0 < a := coefA_pos z hx hy
  have h : b * b ≤ cc * (a * a) := by
    rw [coefA_mul_self z hx hy]
    exact cauchy_schwarz z μx μy (mul_pos hx hx) (mul_pos hy hy)
  exact div_nonpos_of_nonpos_of_nonneg (sub_nonpos.mpr h) (by positivity)

/-- the constant prefactor relation `d · e^{-b²/2a²} = e^{-c/2}` -/
theorem d_factor (z μx μy : ℝ) {σx σy : ℝ} (hx : 0 < σx) (hy : 0 < σy) :
    let a := coefA z σx σy
    let b := coefB z μx μy σx σy
    let cc := coefC μx μy σx σy
    Real.exp ((b * b - cc * (a * a)) / (2 * (a * a))) * Real.exp (-(b^2) / (2 * a^2)) = Real.exp (-cc / 2) := by
  intro a b cc
  rw [← Real.exp_add, d_exponent_eq (coefA_pos z hx hy).ne']
  congr 1
  ring

theorem b_cdf_term_nonneg (b : ℝ) {a : ℝ} (ha : 0 < a) :
    0 ≤ b * (stdCdf (b / a) - stdCdf (-b / a)) := by
  rw [neg_div, stdCdf_sub_neg, div_div]
  exact mul_erf_nonneg b (by positivity)

/-- non-negativity (indeed positivity) of the closed-form density -/
theorem ratioPdf_pos (z μx μy : ℝ) {σx σy : ℝ} (hx : 0 < σx) (hy : 0 < σy) :
    0 < ratioPdf z μx μy σx σy := by
  have ha : 0 < coefA z σx σy := coefA_pos z hx hy
  rw [ratioPdf_eq]
  refine add_pos_of_nonneg_of_pos ?_ (by positivity)
  -- `b * E / D * t = (b * t) * (E / D)`
  rw [mul_div_assoc, mul_right_comm]
  exact mul_nonneg (b_cdf_term_nonneg _ ha) (by positivity)

/-- for non-zero modelled amplitudes and any fractional error (zero included: it is replaced by
    `10⁻²⁴`) both standard deviations are strictly positive, so the density is defined and
    strictly positive: finite and NaN-free -/
theorem arPdf_pos (r : ℝ) {μx μy : ℝ} (hμx : μx ≠ 0) (hμy : μy ≠ 0) (px py : ℝ) :
    0 < arPdf r μx μy px py := by
  rw [arPdf_eq, if_neg (not_or.mpr ⟨hμx, hμy⟩)]
  have hsx := errFix_mul_abs_pos px hμx
  have hsy := errFix_mul_abs_pos py hμy
  exact add_pos (ratioPdf_pos r _ _ hsx hsy) (ratioPdf_pos (-r) _ _ hsx hsy)

theorem arPdf_nonneg (r μx μy px py : ℝ) : 0 ≤ arPdf r μx μy px py := by
  by_cases h : μx = 0 ∨ μy = 0
  · rw [arPdf_eq, if_pos h]
  · exact (arPdf_pos r (not_or.mp h).1 (not_or.mp h).2 px py).le

/-- the likelihood depends on the modelled amplitudes only through their magnitudes -/
theorem arPdf_abs (r μx μy px py : ℝ) : arPdf r μx μy px py = arPdf r |μx| |μy| px py := by
  rw [arPdf_eq, arPdf_eq]
  simp only [abs_abs, abs_eq_zero]

theorem arPdf_neg_left (r μx μy px py : ℝ) : arPdf r (-μx) μy px py = arPdf r μx μy px py := by
  rw [arPdf_abs, abs_neg, ← arPdf_abs]

theorem arPdf_neg_right (r μx μy px py : ℝ) : arPdf r μx (-μy) px py = arPdf r μx μy px py := by
  rw [arPdf_abs, abs_neg, ← arPdf_abs]

/-- symmetric in the sign of the observed ratio -/
theorem arPdf_neg_ratio (r μx μy px py : ℝ) : arPdf (-r) μx μy px py = arPdf r μx μy px py := by
  rw [arPdf_eq, arPdf_eq, neg_neg]
  split
  · rfl
  · exact add_comm _ _

/-- sum of logs over stations = log of the product of the station densities -/
theorem lnArAt_toProb (sts : List (ArStation ℝ)) (k : Nat) (mt : List ℝ) :
    toProb (lnArAt sts k mt)
      = (sts.map fun s => arPdf s.ratio (dot (s.cx.getD k []) mt) (dot (s.cy.getD k []) mt) s.px s.py).prod :=
  toProb_sum_ofProb _ _ fun _ _ => arPdf_nonneg _ _ _ _ _

end MTfitVerif.C03
