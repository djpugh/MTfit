import MTfitVerif.Props.C17
/-
  C17 — further property theorems for the binary result files: appending to a file, the
  second round trip is an exact fixed point, the reader determines the record (no two
  different records share a byte stream), and the size of a file follows from its header.
-/
namespace MTfitVerif.C17
open Binary

/-- what the reader drops (the evidence of an unconverted record) is dropped once -/
theorem norm_idempotent (r : Record ℝ) : norm (norm r) = norm r := by
  cases r with
  | mk total converted lbe dkl samples => cases converted <;> rfl

/-- a record as read back is again well formed -/
theorem norm_WF (r : Record ℝ) (h : WF r) : WF (norm r) := h

/-- an empty file holds no record -/
theorem read_empty (fuel : Nat) : read fuel ([] : List (Word ℝ)) = some [] := by
  cases fuel <;> rfl

/-- appending records to an existing file: the stream reads back as the old records followed
    by the new ones -/
theorem read_write_append (rs₁ rs₂ : List (Record ℝ)) (h₁ : ∀ r ∈ rs₁, WF r) (h₂ : ∀ r ∈ rs₂, WF r)
    (fuel : Nat) (hf : rs₁.length + rs₂.length ≤ fuel) :
    read fuel (rs₁.flatMap write ++ rs₂.flatMap write) = some (rs₁.map norm ++ rs₂.map norm) := by
  rw [← List.flatMap_append, ← List.map_append]
  exact read_write_binary _ (List.forall_mem_append.mpr ⟨h₁, h₂⟩) fuel (by simpa using hf)

/-- writing out what was read and reading it again returns exactly what was read: after the
    first round trip every later one is the identity -/
theorem read_write_fixpoint (rs : List (Record ℝ)) (h : ∀ r ∈ rs, WF r) (fuel : Nat)
    (hf : rs.length ≤ fuel) :
    read fuel ((rs.map norm).flatMap write) = some (rs.map norm) := by
  have hwf : ∀ r ∈ rs.map norm, WF r := List.forall_mem_map.mpr fun r hr => norm_WF r (h r hr)
  have := read_write_binary (rs.map norm) hwf fuel (by simpa using hf)
  rw [this, List.map_map]
  congr 1
  apply List.map_congr_left
  intro r _
  exact norm_idempotent r

/-- the stream determines the record: two well-formed records with the same stream are read
    back as the same record -/
theorem write_determines (r₁ r₂ : Record ℝ) (h₁ : WF r₁) (h₂ : WF r₂) (hw : write r₁ = write r₂) :
    norm r₁ = norm r₂ := by
  have e₁ := readOne_write r₁ h₁ []
  have e₂ := readOne_write r₂ h₂ []
  rw [hw, e₂] at e₁
  have := Option.some.inj e₁
  exact (Prod.mk.inj this).1.symm

theorem writeSample_length (conv : Bool) (s : Sample ℝ)
    (h : s.conv.length = (if conv then 13 else 0)) :
    (writeSample conv s).length = if conv then 21 else 8 := by
  rw [writeSample_eq conv s h, List.length_append, List.length_map, List.length_map, h]
  cases conv <;> rfl

/-- the size of a record's stream follows from its header: six header words and 8 or 21
    doubles per sample -/
theorem write_length (r : Record ℝ) (h : WF r) :
    (write r).length = 6 + r.samples.length * (if r.converted then 21 else 8) := by
  unfold write
  rw [List.length_append, List.length_flatMap,
    List.map_congr_left (fun s hs => writeSample_length r.converted s (h s hs).2), List.map_const', List.sum_replicate_nat]
  rfl

/-- premises are satisfiable: an unconverted record with one sample -/
example : WF (⟨10, false, none, none, [⟨1, 0, [1, 0, 0, 0, 0, 0], []⟩]⟩ : Record ℝ) :=
  List.forall_mem_singleton.mpr ⟨rfl, rfl⟩

end MTfitVerif.C17
