import MTfitVerif.Real.ChainLemmas
/-
  C07 — a Markov-chain run returns a correctly counted chain: the bookkeeping half.  That the kernel
  the chain realises leaves the posterior invariant is in `Props/C07Stationary.lean`, `C07TransD.lean`,
  `C07Step.lean`, `C07StepJump.lean`; convergence of a finite chain is tested statistically.
-/
namespace MTfitVerif.C07
open Chain

/-- states reachable by feeding any list of events to `step` -/
def reach (s₀ : State) (evs : List Event) : State := evs.foldl step s₀

/-- number of proposals an event tries -/
def Event.nTried : Event → Nat
  | .accept u _ => u + 1
  | .reject n => max n 1

theorem _root_.MTfitVerif.Chain.nTried_eq_tries : Event.nTried = tries := rfl

/-- **Counting invariant**, for every history: nothing is recorded during the learning period;
    afterwards the chain holds one entry per tried proposal plus the first state held one extra
    time; `tried` never decreases below −1; the double-couple count is the number of
    double-couple entries. -/
theorem chain_counts (L W C : Nat) (x0 : Entry) (evs : List Event) :
    let s := reach (init L W C x0) evs
    (s.tried = -1 → s.chain = []) ∧
    (0 ≤ s.tried → (s.chain.length : Int) = s.tried + 1 ∧ 1 ≤ s.tried) ∧
    s.pDc = (s.chain.filter (·.isDc)).length ∧
    (learning s = true → s.chain = [] ∧ s.tried = -1) := by
  intro s
  have hs : BInv s := (binv_init L W C x0).foldl evs
  have hlen := hs.len
  have hne := hs.bnd
  have h1 : s.tried = -1 → s.chain = [] := by
    intro h; rw [h] at hlen
    exact List.eq_nil_of_length_eq_zero (by omega)
  refine ⟨h1, fun h => ⟨hlen, by omega⟩, hs.pdc, fun h => ?_⟩
  have := (hs.learn h).1
  exact ⟨h1 this, this⟩

/-- the learning period is discarded: while fewer than `L` proposals have been accepted nothing
    is recorded and the counters stay at their start values -/
theorem learning_discarded (L W C : Nat) (x0 : Entry) (evs : List Event)
    (h : learning (reach (init L W C x0) evs) = true) :
    (reach (init L W C x0) evs).chain = [] ∧ (reach (init L W C x0) evs).accepted = -1 := by
  have hs : BInv (reach (init L W C x0) evs) := (binv_init L W C x0).foldl evs
  exact ⟨((chain_counts L W C x0 evs).2.2.2 h).1, (hs.learn h).2⟩

/-- after the learning period every iteration records exactly the proposals it tried: a
    rejection repeats the current state, an acceptance at index `u` repeats it `u` times and then
    records the new state; `tried` grows by the number of tried proposals, `accepted` by one per
    acceptance -/
theorem step_records (s : State) (ev : Event) (hl : learning s = false) (ht : 1 ≤ s.tried) :
    (step s ev).tried = s.tried + Event.nTried ev ∧
    (match ev with
     | .accept u e => (step s ev).chain = s.chain ++ List.replicate u s.cur ++ [e] ∧
                      (step s ev).accepted = s.accepted + 1 ∧ (step s ev).cur = e
     | .reject n => (step s ev).chain = s.chain ++ List.replicate (max n 1) s.cur ∧
                    (step s ev).accepted = s.accepted ∧ (step s ev).cur = s.cur) := by
  rw [step_of_chain_started hl (by omega), record_chain ev hl, nTried_eq_tries]
  cases ev with
  | accept u e => exact ⟨rfl, (List.append_assoc ..).symm, rfl, rfl⟩
  | reject n => exact ⟨rfl, rfl, Int.add_zero _, rfl⟩

/-- the first iteration after learning records its outcome (one entry per tried proposal) and
    then holds the state it reached one extra time; `tried` is the number of proposals tried,
    whether one or several, and the extra entry counts as accepted -/
theorem first_chain_sample (s : State) (ev : Event) (hl : learning s = false) (ht : s.tried = -1)
    (hc : s.chain = []) :
    let s' := step s ev
    s'.tried = Event.nTried ev ∧
    s'.chain = (match ev with
                | .accept u e => List.replicate u s.cur ++ [e, e]
                | .reject n => List.replicate (max n 1 + 1) s.cur) ∧
    s'.accepted = s.accepted + (match ev with | .accept _ _ => 2 | .reject _ => 1) := by
  intro s'
  refine ⟨nTried_eq_tries ▸ step_tried_first ev hl ht, ?_⟩
  obtain ⟨w, a, e⟩ := step_of_chain_first ev hl ht
  show (step s ev).chain = _ ∧ (step s ev).accepted = _
  rw [e, record_chain (s := { record s ev with learnWin := w, adaptCalls := a }) _ (record_not_learning ev hl),
    record_chain ev hl, hc]
  cases ev with
  | accept u e =>
    exact ⟨by simp [recorded, Event.last], Int.add_assoc ..⟩
  | reject n =>
    exact ⟨by simp [recorded, Event.last, List.replicate_succ'], by show s.accepted + 0 + 1 = s.accepted + 1; omega⟩

/-- once the chain has started, `tried` is the total number of proposals tried by the iterations
    processed since the learning period ended (`s`: any state at the end of learning) -/
theorem tried_counts_proposals (s : State) (ev : Event) (evs : List Event)
    (hl : learning s = false) (ht : s.tried = -1) (hc : s.chain = []) :
    (reach s (ev :: evs)).tried = ((((ev :: evs).map Event.nTried).sum : Nat) : Int) := by
  have h1 := (first_chain_sample s ev hl ht hc).1
  have hpos := tries_pos ev
  rw [nTried_eq_tries] at h1 ⊢
  show (evs.foldl step (step s ev)).tried = _
  rw [foldl_tried_started evs (step_not_learning ev hl) (by rw [h1]; omega), h1,
    List.map_cons, List.sum_cons]
  omega

/-- every recorded entry is the start state or an accepted proposal, with the log-likelihood that
    came with it -/
theorem entries_are_states (L W C : Nat) (x0 : Entry) (evs : List Event) :
    ∀ e ∈ (reach (init L W C x0) evs).chain,
      e = x0 ∨ ∃ u, Event.accept u e ∈ evs := by
  have h0 : EInv (fun e => e = x0 ∨ ∃ u, Event.accept u e ∈ evs) (init L W C x0) :=
    ⟨Or.inl rfl, fun _ he => absurd he List.not_mem_nil⟩
  exact (h0.foldl evs fun u e h => Or.inr ⟨u, h⟩).2

/-- a double-couple-constrained run records only double-couples -/
theorem dc_run_all_dc (L W C : Nat) (x0 : Entry) (evs : List Event) (h0 : x0.isDc = true)
    (hev : ∀ u e, Event.accept u e ∈ evs → e.isDc = true) :
    ∀ e ∈ (reach (init L W C x0) evs).chain, e.isDc = true := by
  have hi : EInv (fun e => e.isDc = true) (init L W C x0) :=
    ⟨h0, fun _ he => absurd he List.not_mem_nil⟩
  exact (hi.foldl evs hev).2

/-- the run stops as soon as the number of tried proposals reaches the chain length, and not
    before -/
theorem run_stops (s : State) (evs : List Event) (h : finished s = true) : run s evs = s := by
  cases evs with
  | nil => rfl
  | cons ev evs => exact if_pos h

theorem run_continues (s : State) (ev : Event) (evs : List Event) (h : finished s = false) :
    run s (ev :: evs) = run (step s ev) evs :=
  if_neg (ne_true_of_eq_false h)

/-- a finished run has tried at least `chain length` proposals and overshoots by less than the
    largest number of proposals tried in one iteration; the chain holds one entry per tried
    proposal plus the extra hold.  For every chain length, including 0 (where the bound is `1 + m`). -/
theorem multi_try_final_count_any (L W C m : Nat) (x0 : Entry) (evs : List Event)
    (hm : ∀ ev ∈ evs, Event.nTried ev ≤ m)
    (hf : finished (run (init L W C x0) evs) = true) :
    (C : Int) ≤ (run (init L W C x0) evs).tried ∧
    (run (init L W C x0) evs).tried < max C 1 + m ∧
    ((run (init L W C x0) evs).chain.length : Int) = (run (init L W C x0) evs).tried + 1 := by
  obtain ⟨hb, hc, ht⟩ := run_bound (m := m) evs (binv_init L W C x0) (by show (-1 : Int) < _; omega)
    fun ev he => nTried_eq_tries ▸ hm ev he
  simp only [finished, hc, ge_iff_le, decide_eq_true_eq] at hf
  exact ⟨hf, ht, hb.len⟩

/-- for a chain length of at least 1 the bound is `C + m`.  The hypothesis cannot be dropped: with
    `C = 0` the first chain iteration still runs and leaves `tried = nTried ev`, e.g. `L = 0`,
    `C = 0`, `m = 1`, `evs = [reject 1]` gives `tried = 1 = C + m`. -/
theorem multi_try_final_count (L W C m : Nat) (hC : 1 ≤ C) (x0 : Entry) (evs : List Event)
    (hm : ∀ ev ∈ evs, Event.nTried ev ≤ m)
    (hf : finished (run (init L W C x0) evs) = true) :
    (C : Int) ≤ (run (init L W C x0) evs).tried ∧ (run (init L W C x0) evs).tried < C + m ∧
    ((run (init L W C x0) evs).chain.length : Int) = (run (init L W C x0) evs).tried + 1 := by
  have h := multi_try_final_count_any L W C m x0 evs hm hf
  rwa [Nat.max_eq_left hC] at h

/-- with single-try events the finished run has tried exactly `chain length` proposals
    (chain length ≥ 1), hence `chain length + 1` entries -/
theorem single_try_final_count (L W C : Nat) (hC : 1 ≤ C) (x0 : Entry) (evs : List Event)
    (hs : ∀ ev ∈ evs, Event.nTried ev = 1)
    (hf : finished (run (init L W C x0) evs) = true) :
    (run (init L W C x0) evs).tried = C ∧ (run (init L W C x0) evs).chain.length = C + 1 := by
  have h := multi_try_final_count L W C 1 hC x0 evs (fun ev he => Nat.le_of_eq (hs ev he)) hf
  omega

/-- the hypothesis `1 ≤ C` of `multi_try_final_count` cannot be dropped -/
theorem multi_try_final_count_zero_length :
    finished (run (init 0 0 0 ⟨0, 0, false⟩) [.reject 1]) = true ∧
    (run (init 0 0 0 ⟨0, 0, false⟩) [.reject 1]).tried = 1 := by
  decide

end MTfitVerif.C07
