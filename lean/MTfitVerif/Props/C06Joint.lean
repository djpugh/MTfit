import MTfitVerif.Props.C06Law
/-
  C06 (joint law) — "a whole proposal has the PRODUCT law the acceptance rule assumes".

  `Props/C06Law.lean` gives the law of ONE redraw loop.  `shiftSample` (and `jumpDraw`) run several
  redraw loops and a single draw one after the other on ONE stream of i.i.d. draws, each stage
  handing the rest of the stream to the next.  This file proves that the stages are independent:
  the finite-stream law is a nested "first success at position `k`" sum, and in the limit of a long
  stream the joint law is the product of the laws of the stages — for standard-normal draws the
  integral of `transPdf` times the law of the strike draw.

  The stream is a point `ω` of `Fin n → ℝ` under `Measure.pi (fun _ => ν)`, handed to the model as
  `List.ofFn ω` (as in `C06Law`).  No measurability of `B` or of the `G`-events is needed; only the
  in-range sets `S` have to be measurable.  In `ℝ≥0∞` the limit statements also hold when `ν S = 0`
  (both sides are `0`), so the hypotheses `0 < ν Sᵢ` of the informal statement are not needed.
-/
namespace MTfitVerif.C06
open Acceptance Proposal MeasureTheory ProbabilityTheory Filter Topology
open scoped ENNReal

/-! ### the key lemma: a loop, then anything on the rest of the stream -/

/-- **Key lemma.**  With `n` independent draws of law `ν`: the probability that the redraw loop
    returns a value in `B` AND the rest of the stream satisfies `G` is
    `∑_{k<n} ν(Sᶜ)^k · ν(S ∩ cand⁻¹ B) · P_{n-1-k}(G)` — the first in-range draw is at position `k`
    and the remaining `n-1-k` draws are again i.i.d. and independent of what came before.
    (`B` and the `G`-events need not be measurable.) -/
theorem firstOk_then (ν : Measure ℝ) [IsProbabilityMeasure ν] (ok : ℝ → Bool) (m s : ℝ)
    (hS : MeasurableSet {z : ℝ | ok (m + s * z) = true}) (B : Set ℝ) (G : List ℝ → Prop) (n : ℕ) :
    Measure.pi (fun _ : Fin n => ν)
        {ω : Fin n → ℝ | ∃ v rest, firstOk ok m s (List.ofFn ω) = some (v, rest) ∧ v ∈ B ∧ G rest} =
      ∑ k ∈ Finset.range n, ν {z : ℝ | ok (m + s * z) = true}ᶜ ^ k *
        ν ({z : ℝ | ok (m + s * z) = true} ∩ (fun z => m + s * z) ⁻¹' B) *
        Measure.pi (fun _ : Fin (n - 1 - k) => ν) {ω : Fin (n - 1 - k) → ℝ | G (List.ofFn ω)} :=
  restSet_loopG_measure ν ok m s hS B G n

/-- the probability of "loop, then `G`" is monotone in the stream length if that of `G` is -/
theorem firstOk_then_mono (ν : Measure ℝ) [IsProbabilityMeasure ν] (ok : ℝ → Bool) (m s : ℝ)
    (hS : MeasurableSet {z : ℝ | ok (m + s * z) = true}) (B : Set ℝ) (G : List ℝ → Prop)
    (hmono : Monotone fun n : ℕ =>
      Measure.pi (fun _ : Fin n => ν) {ω : Fin n → ℝ | G (List.ofFn ω)}) :
    Monotone fun n : ℕ => Measure.pi (fun _ : Fin n => ν)
        {ω : Fin n → ℝ | ∃ v rest, firstOk ok m s (List.ofFn ω) = some (v, rest) ∧ v ∈ B ∧ G rest} :=
  (StageLaw.loop ⟨fun _ => rfl, hmono, tendsto_atTop_iSup hmono⟩ hS B).measure_mono

/-- **Limit of the key lemma.**  If the probability of `G` is monotone in the stream length with
    limit `L`, the probability of "loop returns a value in `B`, then `G`" tends to
    `ν(S ∩ cand⁻¹ B) / ν(S) · L`: the conditional law of the loop times the law of the rest. -/
theorem firstOk_then_limit (ν : Measure ℝ) [IsProbabilityMeasure ν] (ok : ℝ → Bool) (m s : ℝ)
    (hS : MeasurableSet {z : ℝ | ok (m + s * z) = true}) (B : Set ℝ) (G : List ℝ → Prop)
    (hmono : Monotone fun n : ℕ =>
      Measure.pi (fun _ : Fin n => ν) {ω : Fin n → ℝ | G (List.ofFn ω)}) {L : ℝ≥0∞}
    (hL : Tendsto (fun n : ℕ =>
      Measure.pi (fun _ : Fin n => ν) {ω : Fin n → ℝ | G (List.ofFn ω)}) atTop (𝓝 L)) :
    Tendsto (fun n : ℕ => Measure.pi (fun _ : Fin n => ν)
        {ω : Fin n → ℝ | ∃ v rest, firstOk ok m s (List.ofFn ω) = some (v, rest) ∧ v ∈ B ∧ G rest})
      atTop (𝓝 (ν ({z : ℝ | ok (m + s * z) = true} ∩ (fun z => m + s * z) ⁻¹' B) /
          ν {z : ℝ | ok (m + s * z) = true} * L)) :=
  (StageLaw.loop ⟨fun _ => rfl, hmono, hL⟩ hS B).measure_tendsto

/-! ### two consecutive loops -/

/-- **Two loops, finite stream.**  The joint law of two consecutive redraw loops on one stream of
    `n` i.i.d. draws: the first succeeds at position `k`, the second at position `j` of the
    remaining `n-1-k` draws. -/
theorem two_loops_finite (ν : Measure ℝ) [IsProbabilityMeasure ν] (ok₁ ok₂ : ℝ → Bool)
    (m₁ s₁ m₂ s₂ : ℝ) (hS₁ : MeasurableSet {z : ℝ | ok₁ (m₁ + s₁ * z) = true})
    (hS₂ : MeasurableSet {z : ℝ | ok₂ (m₂ + s₂ * z) = true}) (B₁ B₂ : Set ℝ) (n : ℕ) :
    Measure.pi (fun _ : Fin n => ν)
        {ω : Fin n → ℝ | ∃ v₁ r₁, firstOk ok₁ m₁ s₁ (List.ofFn ω) = some (v₁, r₁) ∧ v₁ ∈ B₁ ∧
          ∃ v₂ r₂, firstOk ok₂ m₂ s₂ r₁ = some (v₂, r₂) ∧ v₂ ∈ B₂} =
      ∑ k ∈ Finset.range n, ν {z : ℝ | ok₁ (m₁ + s₁ * z) = true}ᶜ ^ k *
        ν ({z : ℝ | ok₁ (m₁ + s₁ * z) = true} ∩ (fun z => m₁ + s₁ * z) ⁻¹' B₁) *
        ((∑ j ∈ Finset.range (n - 1 - k), ν {z : ℝ | ok₂ (m₂ + s₂ * z) = true}ᶜ ^ j) *
          ν ({z : ℝ | ok₂ (m₂ + s₂ * z) = true} ∩ (fun z => m₂ + s₂ * z) ⁻¹' B₂)) :=
  ((stageLaw_firstOk ν ok₂ m₂ s₂ hS₂ B₂).loop hS₁ B₁).law n

/-- **Two loops, limit: independence.**  As the stream gets longer the joint probability tends to
    the PRODUCT of the two conditional laws `ν(Sᵢ ∩ candᵢ⁻¹ Bᵢ) / ν(Sᵢ)` — although both loops read
    the same stream.  (Holds in `ℝ≥0∞` also for `ν Sᵢ = 0`, where both sides vanish.) -/
theorem two_loops_limit (ν : Measure ℝ) [IsProbabilityMeasure ν] (ok₁ ok₂ : ℝ → Bool)
    (m₁ s₁ m₂ s₂ : ℝ) (hS₁ : MeasurableSet {z : ℝ | ok₁ (m₁ + s₁ * z) = true})
    (hS₂ : MeasurableSet {z : ℝ | ok₂ (m₂ + s₂ * z) = true}) (B₁ B₂ : Set ℝ) :
    Tendsto (fun n : ℕ => Measure.pi (fun _ : Fin n => ν)
        {ω : Fin n → ℝ | ∃ v₁ r₁, firstOk ok₁ m₁ s₁ (List.ofFn ω) = some (v₁, r₁) ∧ v₁ ∈ B₁ ∧
          ∃ v₂ r₂, firstOk ok₂ m₂ s₂ r₁ = some (v₂, r₂) ∧ v₂ ∈ B₂}) atTop
      (𝓝 (ν ({z : ℝ | ok₁ (m₁ + s₁ * z) = true} ∩ (fun z => m₁ + s₁ * z) ⁻¹' B₁) /
            ν {z : ℝ | ok₁ (m₁ + s₁ * z) = true} *
          (ν ({z : ℝ | ok₂ (m₂ + s₂ * z) = true} ∩ (fun z => m₂ + s₂ * z) ⁻¹' B₂) /
            ν {z : ℝ | ok₂ (m₂ + s₂ * z) = true}))) :=
  ((stageLaw_firstOk ν ok₂ m₂ s₂ hS₂ B₂).loop hS₁ B₁).measure_tendsto

/-! ### the whole proposal `shiftSample`, any draw law -/

/-- the strike draw of `shiftSample` -/
noncomputable def strike (w : Widths ℝ) (ξ : Tape ℝ) : ℝ → ℝ :=
  fun z => Convert.mod2pi (ξ.kappa + w.kappa * z)

/-- the event "the proposal succeeds and its components are in `Bγ, Bδ, Bκ, Bh, Bσ`" -/
def shiftEvent (dc : Bool) (w : Widths ℝ) (ξ : Tape ℝ) (Bγ Bδ Bκ Bh Bσ : Set ℝ) (n : ℕ) :
    Set (Fin n → ℝ) :=
  {ω | ∃ x rest, shiftSample dc w ξ (List.ofFn ω) = some (x, rest) ∧
    x.gamma ∈ Bγ ∧ x.delta ∈ Bδ ∧ x.kappa ∈ Bκ ∧ x.h ∈ Bh ∧ x.sigma ∈ Bσ}

section general
variable (ν : Measure ℝ) [IsProbabilityMeasure ν] (w : Widths ℝ) (ξ : Tape ℝ)

/-- the five stages of `shiftSample false` composed -/
theorem shiftSample_stageLaw
    (hγ : MeasurableSet (okSet (absLe (Real.pi / 6)) ξ.gamma w.gamma))
    (hδ : MeasurableSet (okSet (absLe (Real.pi / 2)) ξ.delta w.delta))
    (hh : MeasurableSet (okSet inUnit ξ.h w.h))
    (hσ : MeasurableSet (okSet (absLe (Real.pi / 2)) ξ.sigma w.sigma))
    (Bγ Bδ Bκ Bh Bσ : Set ℝ) :
    StageLaw ν
      (loopG (absLe (Real.pi / 6)) ξ.gamma w.gamma Bγ
        (loopG (absLe (Real.pi / 2)) ξ.delta w.delta Bδ
          (drawG (strike w ξ) Bκ
            (loopG inUnit ξ.h w.h Bh
              (loopG (absLe (Real.pi / 2)) ξ.sigma w.sigma Bσ (fun _ => True))))))
      (conv (ν (okSet (absLe (Real.pi / 6)) ξ.gamma w.gamma)ᶜ)
          (ν (okSet (absLe (Real.pi / 6)) ξ.gamma w.gamma ∩ (fun z => ξ.gamma + w.gamma * z) ⁻¹' Bγ))
        (conv (ν (okSet (absLe (Real.pi / 2)) ξ.delta w.delta)ᶜ)
            (ν (okSet (absLe (Real.pi / 2)) ξ.delta w.delta ∩ (fun z => ξ.delta + w.delta * z) ⁻¹' Bδ))
          (shiftSeq (ν (strike w ξ ⁻¹' Bκ))
            (conv (ν (okSet inUnit ξ.h w.h)ᶜ)
                (ν (okSet inUnit ξ.h w.h ∩ (fun z => ξ.h + w.h * z) ⁻¹' Bh))
              (conv (ν (okSet (absLe (Real.pi / 2)) ξ.sigma w.sigma)ᶜ)
                  (ν (okSet (absLe (Real.pi / 2)) ξ.sigma w.sigma ∩
                    (fun z => ξ.sigma + w.sigma * z) ⁻¹' Bσ))
                (fun _ => 1))))))
      (ν (okSet (absLe (Real.pi / 6)) ξ.gamma w.gamma ∩ (fun z => ξ.gamma + w.gamma * z) ⁻¹' Bγ) /
          ν (okSet (absLe (Real.pi / 6)) ξ.gamma w.gamma) *
        (ν (okSet (absLe (Real.pi / 2)) ξ.delta w.delta ∩ (fun z => ξ.delta + w.delta * z) ⁻¹' Bδ) /
            ν (okSet (absLe (Real.pi / 2)) ξ.delta w.delta) *
          (ν (strike w ξ ⁻¹' Bκ) *
            (ν (okSet inUnit ξ.h w.h ∩ (fun z => ξ.h + w.h * z) ⁻¹' Bh) / ν (okSet inUnit ξ.h w.h) *
              (ν (okSet (absLe (Real.pi / 2)) ξ.sigma w.sigma ∩
                  (fun z => ξ.sigma + w.sigma * z) ⁻¹' Bσ) /
                ν (okSet (absLe (Real.pi / 2)) ξ.sigma w.sigma) * 1))))) :=
  (((((StageLaw.nil ν).loop hσ Bσ).loop hh Bh).draw (strike w ξ) Bκ).loop hδ Bδ).loop hγ Bγ

theorem shiftEvent_false_eq (Bγ Bδ Bκ Bh Bσ : Set ℝ) (n : ℕ) :
    shiftEvent false w ξ Bγ Bδ Bκ Bh Bσ n =
      restSet (loopG (absLe (Real.pi / 6)) ξ.gamma w.gamma Bγ
        (loopG (absLe (Real.pi / 2)) ξ.delta w.delta Bδ
          (drawG (strike w ξ) Bκ
            (loopG inUnit ξ.h w.h Bh
              (loopG (absLe (Real.pi / 2)) ξ.sigma w.sigma Bσ (fun _ => True)))))) n := by
  ext ω
  exact shiftSample_iff false w ξ Bγ Bδ Bκ Bh Bσ (List.ofFn ω)

theorem shiftEvent_true_eq (Bκ Bh Bσ : Set ℝ) (n : ℕ) :
    shiftEvent true w ξ {0} {0} Bκ Bh Bσ n =
      restSet (drawG (strike w ξ) Bκ
        (loopG inUnit ξ.h w.h Bh
          (loopG (absLe (Real.pi / 2)) ξ.sigma w.sigma Bσ (fun _ => True)))) n := by
  ext ω
  refine (shiftSample_iff true w ξ {0} {0} Bκ Bh Bσ (List.ofFn ω)).trans ?_
  simp only [typeG_true, Set.mem_singleton_iff, true_and]
  rfl

/-- **Finite-stream law of a whole proposal** (`dc = false`), any draw law `ν`: the nested
    "first success at position `k`" sums (`conv q p a n = ∑_{k<n} q^k · p · a (n-1-k)`,
    `shiftSeq c a (n+1) = c · a n`, `shiftSeq c a 0 = 0`). -/
theorem shiftSample_law_finite
    (hγ : MeasurableSet (okSet (absLe (Real.pi / 6)) ξ.gamma w.gamma))
    (hδ : MeasurableSet (okSet (absLe (Real.pi / 2)) ξ.delta w.delta))
    (hh : MeasurableSet (okSet inUnit ξ.h w.h))
    (hσ : MeasurableSet (okSet (absLe (Real.pi / 2)) ξ.sigma w.sigma))
    (Bγ Bδ Bκ Bh Bσ : Set ℝ) (n : ℕ) :
    Measure.pi (fun _ : Fin n => ν) (shiftEvent false w ξ Bγ Bδ Bκ Bh Bσ n) =
      conv (ν (okSet (absLe (Real.pi / 6)) ξ.gamma w.gamma)ᶜ)
          (ν (okSet (absLe (Real.pi / 6)) ξ.gamma w.gamma ∩ (fun z => ξ.gamma + w.gamma * z) ⁻¹' Bγ))
        (conv (ν (okSet (absLe (Real.pi / 2)) ξ.delta w.delta)ᶜ)
            (ν (okSet (absLe (Real.pi / 2)) ξ.delta w.delta ∩ (fun z => ξ.delta + w.delta * z) ⁻¹' Bδ))
          (shiftSeq (ν (strike w ξ ⁻¹' Bκ))
            (conv (ν (okSet inUnit ξ.h w.h)ᶜ)
                (ν (okSet inUnit ξ.h w.h ∩ (fun z => ξ.h + w.h * z) ⁻¹' Bh))
              (conv (ν (okSet (absLe (Real.pi / 2)) ξ.sigma w.sigma)ᶜ)
                  (ν (okSet (absLe (Real.pi / 2)) ξ.sigma w.sigma ∩
                    (fun z => ξ.sigma + w.sigma * z) ⁻¹' Bσ))
                (fun _ => 1))))) n := by
  rw [shiftEvent_false_eq]
  exact (shiftSample_stageLaw ν w ξ hγ hδ hh hσ Bγ Bδ Bκ Bh Bσ).law n

/-- **Limit law of a whole proposal** (`dc = false`), any draw law `ν`: the product of the four
    conditional laws of the loops and the law of the strike draw — the five stages are independent. -/
theorem shiftSample_law_limit_general
    (hγ : MeasurableSet (okSet (absLe (Real.pi / 6)) ξ.gamma w.gamma))
    (hδ : MeasurableSet (okSet (absLe (Real.pi / 2)) ξ.delta w.delta))
    (hh : MeasurableSet (okSet inUnit ξ.h w.h))
    (hσ : MeasurableSet (okSet (absLe (Real.pi / 2)) ξ.sigma w.sigma))
    (Bγ Bδ Bκ Bh Bσ : Set ℝ) :
    Tendsto (fun n : ℕ => Measure.pi (fun _ : Fin n => ν) (shiftEvent false w ξ Bγ Bδ Bκ Bh Bσ n))
      atTop
      (𝓝 (ν (okSet (absLe (Real.pi / 6)) ξ.gamma w.gamma ∩ (fun z => ξ.gamma + w.gamma * z) ⁻¹' Bγ) /
          ν (okSet (absLe (Real.pi / 6)) ξ.gamma w.gamma) *
        (ν (okSet (absLe (Real.pi / 2)) ξ.delta w.delta ∩ (fun z => ξ.delta + w.delta * z) ⁻¹' Bδ) /
            ν (okSet (absLe (Real.pi / 2)) ξ.delta w.delta)) *
        ν (strike w ξ ⁻¹' Bκ) *
        (ν (okSet inUnit ξ.h w.h ∩ (fun z => ξ.h + w.h * z) ⁻¹' Bh) / ν (okSet inUnit ξ.h w.h)) *
        (ν (okSet (absLe (Real.pi / 2)) ξ.sigma w.sigma ∩ (fun z => ξ.sigma + w.sigma * z) ⁻¹' Bσ) /
            ν (okSet (absLe (Real.pi / 2)) ξ.sigma w.sigma)))) := by
  have h := (shiftSample_stageLaw ν w ξ hγ hδ hh hσ Bγ Bδ Bκ Bh Bσ).measure_tendsto
  simp only [← shiftEvent_false_eq, mul_one, ← mul_assoc] at h
  exact h

/-- **Limit law of a double-couple proposal** (`dc = true`: `γ = δ = 0`, no draws consumed for
    them), any draw law `ν`. -/
theorem shiftSample_law_limit_general_dc
    (hh : MeasurableSet (okSet inUnit ξ.h w.h))
    (hσ : MeasurableSet (okSet (absLe (Real.pi / 2)) ξ.sigma w.sigma))
    (Bκ Bh Bσ : Set ℝ) :
    Tendsto (fun n : ℕ => Measure.pi (fun _ : Fin n => ν) (shiftEvent true w ξ {0} {0} Bκ Bh Bσ n))
      atTop
      (𝓝 (ν (strike w ξ ⁻¹' Bκ) *
        (ν (okSet inUnit ξ.h w.h ∩ (fun z => ξ.h + w.h * z) ⁻¹' Bh) / ν (okSet inUnit ξ.h w.h)) *
        (ν (okSet (absLe (Real.pi / 2)) ξ.sigma w.sigma ∩ (fun z => ξ.sigma + w.sigma * z) ⁻¹' Bσ) /
            ν (okSet (absLe (Real.pi / 2)) ξ.sigma w.sigma)))) := by
  have h := ((((StageLaw.nil ν).loop hσ Bσ).loop hh Bh).draw (strike w ξ) Bκ).measure_tendsto
  simp only [← shiftEvent_true_eq, mul_one, ← mul_assoc] at h
  exact h

end general

/-! ### standard-normal draws: the product of truncated Gaussians of the acceptance rule -/

section gaussian
variable (w : Widths ℝ) (ξ : Tape ℝ)

theorem absLe_iff_Icc (b x : ℝ) : absLe b x = true ↔ -b ≤ x ∧ x ≤ b :=
  Proposal.absLe_iff_Icc b x

/-- **The proposal has the product law the acceptance rule assumes** (`dc = false`).  For
    standard-normal draws, positive widths and measurable sets inside the ranges, the probability
    that `shiftSample false w ξ` returns a sample with `γ ∈ Bγ, δ ∈ Bδ, κ ∈ Bκ, h ∈ Bh, σ ∈ Bσ`
    tends to the product of the four truncated-normal integrals (the factors of `transPdf`) and the
    law of the strike draw. -/
theorem shiftSample_law_limit (hwγ : 0 < w.gamma) (hwδ : 0 < w.delta) (hwh : 0 < w.h)
    (hwσ : 0 < w.sigma) {Bγ Bδ Bh Bσ : Set ℝ} (Bκ : Set ℝ)
    (hBγ : MeasurableSet Bγ) (hγsub : Bγ ⊆ Set.Icc (-(Real.pi / 6)) (Real.pi / 6))
    (hBδ : MeasurableSet Bδ) (hδsub : Bδ ⊆ Set.Icc (-(Real.pi / 2)) (Real.pi / 2))
    (hBh : MeasurableSet Bh) (hhsub : Bh ⊆ Set.Icc 0 1)
    (hBσ : MeasurableSet Bσ) (hσsub : Bσ ⊆ Set.Icc (-(Real.pi / 2)) (Real.pi / 2)) :
    Tendsto (fun n : ℕ => Measure.pi (fun _ : Fin n => gaussianReal 0 1)
        {ω : Fin n → ℝ | ∃ x rest, shiftSample false w ξ (List.ofFn ω) = some (x, rest) ∧
          x.gamma ∈ Bγ ∧ x.delta ∈ Bδ ∧ x.kappa ∈ Bκ ∧ x.h ∈ Bh ∧ x.sigma ∈ Bσ}) atTop
      (𝓝 (ENNReal.ofReal (∫ x in Bγ, truncTerm x ξ.gamma w.gamma (-(Real.pi / 6)) (Real.pi / 6)) *
        ENNReal.ofReal (∫ x in Bδ, truncTerm x ξ.delta w.delta (-(Real.pi / 2)) (Real.pi / 2)) *
        gaussianReal 0 1 ((fun z => Convert.mod2pi (ξ.kappa + w.kappa * z)) ⁻¹' Bκ) *
        ENNReal.ofReal (∫ x in Bh, truncTerm x ξ.h w.h 0 1) *
        ENNReal.ofReal (∫ x in Bσ, truncTerm x ξ.sigma w.sigma (-(Real.pi / 2)) (Real.pi / 2)))) := by
  have h := shiftSample_law_limit_general (gaussianReal 0 1) w ξ
    (okSet_measurable' _ _ (absLe_iff_Icc _))
    (okSet_measurable' _ _ (absLe_iff_Icc _))
    (okSet_measurable' _ _ inUnit_iff)
    (okSet_measurable' _ _ (absLe_iff_Icc _)) Bγ Bδ Bκ Bh Bσ
  rw [gaussian_ratio_eq_of_subset _ ξ.gamma hwγ neg_pi_div_six_lt (absLe_iff_Icc _) hBγ hγsub,
    gaussian_ratio_eq_of_subset _ ξ.delta hwδ neg_pi_div_two_lt (absLe_iff_Icc _) hBδ hδsub,
    gaussian_ratio_eq_of_subset _ ξ.h hwh one_pos inUnit_iff hBh hhsub,
    gaussian_ratio_eq_of_subset _ ξ.sigma hwσ neg_pi_div_two_lt (absLe_iff_Icc _) hBσ hσsub] at h
  exact h

/-- **Double-couple proposal** (`dc = true`): `γ = δ = 0` and the strike, `h`, `σ` stages are
    independent with the truncated-normal laws of `transPdf true`. -/
theorem shiftSample_law_limit_dc (hwh : 0 < w.h) (hwσ : 0 < w.sigma) {Bh Bσ : Set ℝ} (Bκ : Set ℝ)
    (hBh : MeasurableSet Bh) (hhsub : Bh ⊆ Set.Icc 0 1)
    (hBσ : MeasurableSet Bσ) (hσsub : Bσ ⊆ Set.Icc (-(Real.pi / 2)) (Real.pi / 2)) :
    Tendsto (fun n : ℕ => Measure.pi (fun _ : Fin n => gaussianReal 0 1)
        {ω : Fin n → ℝ | ∃ x rest, shiftSample true w ξ (List.ofFn ω) = some (x, rest) ∧
          x.gamma = 0 ∧ x.delta = 0 ∧ x.kappa ∈ Bκ ∧ x.h ∈ Bh ∧ x.sigma ∈ Bσ}) atTop
      (𝓝 (gaussianReal 0 1 ((fun z => Convert.mod2pi (ξ.kappa + w.kappa * z)) ⁻¹' Bκ) *
        ENNReal.ofReal (∫ x in Bh, truncTerm x ξ.h w.h 0 1) *
        ENNReal.ofReal (∫ x in Bσ, truncTerm x ξ.sigma w.sigma (-(Real.pi / 2)) (Real.pi / 2)))) := by
  have h := shiftSample_law_limit_general_dc (gaussianReal 0 1) w ξ
    (okSet_measurable' _ _ inUnit_iff)
    (okSet_measurable' _ _ (absLe_iff_Icc _)) Bκ Bh Bσ
  rw [gaussian_ratio_eq_of_subset _ ξ.h hwh one_pos inUnit_iff hBh hhsub,
    gaussian_ratio_eq_of_subset _ ξ.sigma hwσ neg_pi_div_two_lt (absLe_iff_Icc _) hBσ hσsub] at h
  exact h

/-- **The same limit as the integral of `transPdf`** (`dc = false`): the proposal density over
    `(γ, δ, h, σ)` is `transPdf false w · ξ` (the strike enters through its own wrapped-normal
    kernel): the limit is `(∫_{Bγ×Bδ×Bh×Bσ} transPdf false w x ξ dx) · ν(strike⁻¹ Bκ)`.
    (`tapeOf p κ₀` puts `p = (γ, δ, h, σ)` and an arbitrary strike `κ₀` into a `Tape`; `transPdf`
    does not look at the strike.) -/
theorem shiftSample_law_limit_transPdf (hwγ : 0 < w.gamma) (hwδ : 0 < w.delta) (hwh : 0 < w.h)
    (hwσ : 0 < w.sigma) {Bγ Bδ Bh Bσ : Set ℝ} (Bκ : Set ℝ) (κ₀ : ℝ)
    (hBγ : MeasurableSet Bγ) (hγsub : Bγ ⊆ Set.Icc (-(Real.pi / 6)) (Real.pi / 6))
    (hBδ : MeasurableSet Bδ) (hδsub : Bδ ⊆ Set.Icc (-(Real.pi / 2)) (Real.pi / 2))
    (hBh : MeasurableSet Bh) (hhsub : Bh ⊆ Set.Icc 0 1)
    (hBσ : MeasurableSet Bσ) (hσsub : Bσ ⊆ Set.Icc (-(Real.pi / 2)) (Real.pi / 2)) :
    Tendsto (fun n : ℕ => Measure.pi (fun _ : Fin n => gaussianReal 0 1)
        {ω : Fin n → ℝ | ∃ x rest, shiftSample false w ξ (List.ofFn ω) = some (x, rest) ∧
          x.gamma ∈ Bγ ∧ x.delta ∈ Bδ ∧ x.kappa ∈ Bκ ∧ x.h ∈ Bh ∧ x.sigma ∈ Bσ}) atTop
      (𝓝 (ENNReal.ofReal (∫ p in Bγ ×ˢ (Bδ ×ˢ (Bh ×ˢ Bσ)), transPdf false w (tapeOf p κ₀) ξ) *
        gaussianReal 0 1 ((fun z => Convert.mod2pi (ξ.kappa + w.kappa * z)) ⁻¹' Bκ))) := by
  have h := shiftSample_law_limit w ξ hwγ hwδ hwh hwσ Bκ hBγ hγsub hBδ hδsub hBh hhsub hBσ hσsub
  have n1 := integral_truncTerm_nonneg ξ.gamma hwγ neg_pi_div_six_lt Bγ
  have n2 := integral_truncTerm_nonneg ξ.delta hwδ neg_pi_div_two_lt Bδ
  have n3 := integral_truncTerm_nonneg ξ.h hwh one_pos Bh
  rw [integral_transPdf_false, ENNReal.ofReal_mul n1, ENNReal.ofReal_mul n2, ENNReal.ofReal_mul n3]
  convert h using 2
  ring

/-- **The same limit as the integral of `transPdf`** (`dc = true`). -/
theorem shiftSample_law_limit_dc_transPdf (hwh : 0 < w.h) (hwσ : 0 < w.sigma) {Bh Bσ : Set ℝ}
    (Bκ : Set ℝ) (κ₀ : ℝ)
    (hBh : MeasurableSet Bh) (hhsub : Bh ⊆ Set.Icc 0 1)
    (hBσ : MeasurableSet Bσ) (hσsub : Bσ ⊆ Set.Icc (-(Real.pi / 2)) (Real.pi / 2)) :
    Tendsto (fun n : ℕ => Measure.pi (fun _ : Fin n => gaussianReal 0 1)
        {ω : Fin n → ℝ | ∃ x rest, shiftSample true w ξ (List.ofFn ω) = some (x, rest) ∧
          x.gamma = 0 ∧ x.delta = 0 ∧ x.kappa ∈ Bκ ∧ x.h ∈ Bh ∧ x.sigma ∈ Bσ}) atTop
      (𝓝 (ENNReal.ofReal (∫ p in Bh ×ˢ Bσ,
            transPdf true w { gamma := 0, delta := 0, kappa := κ₀, h := p.1, sigma := p.2 } ξ) *
        gaussianReal 0 1 ((fun z => Convert.mod2pi (ξ.kappa + w.kappa * z)) ⁻¹' Bκ))) := by
  have h := shiftSample_law_limit_dc w ξ hwh hwσ Bκ hBh hhsub hBσ hσsub
  have n3 := integral_truncTerm_nonneg ξ.h hwh one_pos Bh
  rw [integral_transPdf_true, ENNReal.ofReal_mul n3]
  convert h using 2
  ring

/-- **The proposal terminates almost surely in the limit**: with the full ranges the limit law of
    `shiftSample_law_limit` has total mass one (so it is a probability law). -/
theorem shiftSample_law_limit_univ (hwγ : 0 < w.gamma) (hwδ : 0 < w.delta) (hwh : 0 < w.h)
    (hwσ : 0 < w.sigma) :
    Tendsto (fun n : ℕ => Measure.pi (fun _ : Fin n => gaussianReal 0 1)
        {ω : Fin n → ℝ | ∃ x rest, shiftSample false w ξ (List.ofFn ω) = some (x, rest) ∧
          x.gamma ∈ Set.Icc (-(Real.pi / 6)) (Real.pi / 6) ∧
          x.delta ∈ Set.Icc (-(Real.pi / 2)) (Real.pi / 2) ∧ x.kappa ∈ Set.univ ∧
          x.h ∈ Set.Icc 0 1 ∧ x.sigma ∈ Set.Icc (-(Real.pi / 2)) (Real.pi / 2)}) atTop (𝓝 1) := by
  have h := shiftSample_law_limit w ξ hwγ hwδ hwh hwσ Set.univ
    measurableSet_Icc subset_rfl measurableSet_Icc subset_rfl measurableSet_Icc subset_rfl
    measurableSet_Icc subset_rfl
  rw [truncTerm_integral_eq_one ξ.gamma hwγ neg_pi_div_six_lt, truncTerm_integral_eq_one ξ.delta hwδ neg_pi_div_two_lt,
    truncTerm_integral_eq_one ξ.h hwh one_pos, truncTerm_integral_eq_one ξ.sigma hwσ neg_pi_div_two_lt,
    Set.preimage_univ, measure_univ, ENNReal.ofReal_one, one_mul, one_mul, one_mul, one_mul] at h
  exact h

/-- **The dimension-balancing draw `jump_params()`**: the two loops of `jumpDraw` are independent
    truncated normals about zero (the density `jumpQ` of the trans-dimensional acceptance is the
    product of the two `gaussPdf`s over `propNorm`). -/
theorem jumpDraw_law_limit (hg : 0 < w.gammaDc) (hd : 0 < w.deltaDc) {Bg Bd : Set ℝ}
    (hBg : MeasurableSet Bg) (hgsub : Bg ⊆ Set.Icc (-(Real.pi / 6)) (Real.pi / 6))
    (hBd : MeasurableSet Bd) (hdsub : Bd ⊆ Set.Icc (-(Real.pi / 2)) (Real.pi / 2)) :
    Tendsto (fun n : ℕ => Measure.pi (fun _ : Fin n => gaussianReal 0 1)
        {ω : Fin n → ℝ | ∃ g d rest, jumpDraw w (List.ofFn ω) = some (g, d, rest) ∧ g ∈ Bg ∧ d ∈ Bd})
      atTop
      (𝓝 (ENNReal.ofReal (∫ x in Bg, truncTerm x 0 w.gammaDc (-(Real.pi / 6)) (Real.pi / 6)) *
        ENNReal.ofReal (∫ x in Bd, truncTerm x 0 w.deltaDc (-(Real.pi / 2)) (Real.pi / 2)))) := by
  have h := (((StageLaw.nil (gaussianReal 0 1)).loop
    (okSet_measurable' 0 w.deltaDc (absLe_iff_Icc (Real.pi / 2))) Bd).loop
    (okSet_measurable' 0 w.gammaDc (absLe_iff_Icc (Real.pi / 6))) Bg).measure_tendsto
  rw [mul_one, gaussian_ratio_eq_of_subset _ 0 hg neg_pi_div_six_lt (absLe_iff_Icc _) hBg hgsub,
    gaussian_ratio_eq_of_subset _ 0 hd neg_pi_div_two_lt (absLe_iff_Icc _) hBd hdsub] at h
  refine h.congr fun n => congrArg _ (Set.ext fun ω => ?_)
  exact (jumpDraw_iff w Bg Bd (List.ofFn ω)).symm

end gaussian

/-! ### instantiation of the hypotheses -/

/-- `firstOk_then` with standard-normal draws, the `γ` range, and "the rest is non-empty" -/
example (m s : ℝ) (n : ℕ) (B : Set ℝ) :
    Measure.pi (fun _ : Fin n => gaussianReal 0 1)
        {ω : Fin n → ℝ | ∃ v rest, firstOk (absLe (Real.pi / 6)) m s (List.ofFn ω) = some (v, rest) ∧
          v ∈ B ∧ rest ≠ []} =
      ∑ k ∈ Finset.range n, gaussianReal 0 1 {z : ℝ | absLe (Real.pi / 6) (m + s * z) = true}ᶜ ^ k *
        gaussianReal 0 1 ({z : ℝ | absLe (Real.pi / 6) (m + s * z) = true} ∩
          (fun z => m + s * z) ⁻¹' B) *
        Measure.pi (fun _ : Fin (n - 1 - k) => gaussianReal 0 1)
          {ω : Fin (n - 1 - k) → ℝ | List.ofFn ω ≠ []} :=
  firstOk_then (gaussianReal 0 1) (absLe (Real.pi / 6)) m s
    (okSet_measurable' m s (absLe_iff_Icc _)) B (fun l => l ≠ []) n

/-- `two_loops_limit` with standard-normal draws and the two ranges of `jumpDraw` -/
example (s₁ s₂ : ℝ) (B₁ B₂ : Set ℝ) :
    Tendsto (fun n : ℕ => Measure.pi (fun _ : Fin n => gaussianReal 0 1)
        {ω : Fin n → ℝ | ∃ v₁ r₁, firstOk (absLe (Real.pi / 6)) 0 s₁ (List.ofFn ω) = some (v₁, r₁) ∧
          v₁ ∈ B₁ ∧ ∃ v₂ r₂, firstOk (absLe (Real.pi / 2)) 0 s₂ r₁ = some (v₂, r₂) ∧ v₂ ∈ B₂}) atTop
      (𝓝 (gaussianReal 0 1 ({z : ℝ | absLe (Real.pi / 6) (0 + s₁ * z) = true} ∩
              (fun z => 0 + s₁ * z) ⁻¹' B₁) /
            gaussianReal 0 1 {z : ℝ | absLe (Real.pi / 6) (0 + s₁ * z) = true} *
          (gaussianReal 0 1 ({z : ℝ | absLe (Real.pi / 2) (0 + s₂ * z) = true} ∩
              (fun z => 0 + s₂ * z) ⁻¹' B₂) /
            gaussianReal 0 1 {z : ℝ | absLe (Real.pi / 2) (0 + s₂ * z) = true}))) :=
  two_loops_limit (gaussianReal 0 1) _ _ 0 s₁ 0 s₂
    (okSet_measurable' 0 s₁ (absLe_iff_Icc _))
    (okSet_measurable' 0 s₂ (absLe_iff_Icc _)) B₁ B₂

/-- the hypotheses of `shiftSample_law_limit` are satisfiable: unit-ish widths, the state at the
    origin, upper halves of the ranges -/
example :
    Tendsto (fun n : ℕ => Measure.pi (fun _ : Fin n => gaussianReal 0 1)
        {ω : Fin n → ℝ | ∃ x rest,
          shiftSample false
            ({ gamma := 0.2, delta := 0.3, kappa := 0.5, h := 0.1, sigma := 0.4,
                gammaDc := 1, deltaDc := 1, propNorm := 1 } : Widths ℝ)
            ({ gamma := 0.1, delta := 0, kappa := 1, h := 0.5, sigma := 0 } : Tape ℝ) (List.ofFn ω) =
              some (x, rest) ∧
          x.gamma ∈ Set.Icc 0 (Real.pi / 6) ∧ x.delta ∈ Set.Icc 0 (Real.pi / 2) ∧
          x.kappa ∈ Set.Icc 0 Real.pi ∧ x.h ∈ Set.Icc 0 (1 / 2) ∧
          x.sigma ∈ Set.Icc 0 (Real.pi / 2)}) atTop
      (𝓝 (ENNReal.ofReal (∫ x in Set.Icc 0 (Real.pi / 6),
            truncTerm x 0.1 0.2 (-(Real.pi / 6)) (Real.pi / 6)) *
        ENNReal.ofReal (∫ x in Set.Icc 0 (Real.pi / 2),
            truncTerm x 0 0.3 (-(Real.pi / 2)) (Real.pi / 2)) *
        gaussianReal 0 1 ((fun z => Convert.mod2pi (1 + 0.5 * z)) ⁻¹' Set.Icc 0 Real.pi) *
        ENNReal.ofReal (∫ x in Set.Icc 0 (1 / 2), truncTerm x 0.5 0.1 0 1) *
        ENNReal.ofReal (∫ x in Set.Icc 0 (Real.pi / 2),
            truncTerm x 0 0.4 (-(Real.pi / 2)) (Real.pi / 2)))) :=
  shiftSample_law_limit _ _ (by norm_num) (by norm_num) (by norm_num) (by norm_num) _
    measurableSet_Icc (Set.Icc_subset_Icc (neg_nonpos.mpr pi_div_six_pos.le) le_rfl)
    measurableSet_Icc (Set.Icc_subset_Icc (neg_nonpos.mpr Real.pi_div_two_pos.le) le_rfl)
    measurableSet_Icc (Set.Icc_subset_Icc le_rfl (by norm_num))
    measurableSet_Icc (Set.Icc_subset_Icc (neg_nonpos.mpr Real.pi_div_two_pos.le) le_rfl)

end MTfitVerif.C06
