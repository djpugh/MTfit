import MTfitVerif.Real.ScatangleLemmas
/-
  C18 — reading and binning location-uncertainty samples conserves probability mass.
-/
namespace MTfitVerif.C18
open Scatangle

/-- lines of a well-formed file: every block is a weight line, one or more station lines and a
    blank line -/
def fileOf (recs : List (Record ℝ × ℝ)) : List (Line ℝ) :=
  recs.flatMap fun p => Line.weight p.2 :: (p.1.map fun s => Line.station s.1 s.2.1 s.2.2) ++ [Line.blank]

def WellFormed (recs : List (Record ℝ × ℝ)) : Prop := ∀ p ∈ recs, p.1 ≠ [] ∧ p.2 ≠ 0

/-- one record per sample block with that block's stations, angles and weight, in file order -/
theorem parse_blocks (recs : List (Record ℝ × ℝ)) (h : WellFormed recs) :
    parse (fileOf recs) = recs := by
  obtain ⟨m, hm⟩ := foldl_file recs h { cur := [], mult := c 1, out := [] } rfl
  simp only [parse, fileOf, hm]
  simp

/-- the same when the blank line after the last block is missing -/
theorem parse_blocks_no_trailing_blank (recs : List (Record ℝ × ℝ)) (h : WellFormed recs) :
    parse (fileOf recs).dropLast = recs := by
  rcases List.eq_nil_or_concat recs with rfl | ⟨init, last, rfl⟩
  · simp [fileOf, parse]
  · rw [List.concat_eq_append] at h ⊢
    obtain ⟨hi, hl⟩ := List.forall_mem_append.mp h
    obtain ⟨m, hm⟩ := foldl_file init hi { cur := [], mult := c 1, out := [] } rfl
    have hfile : (fileOf (init ++ [last])).dropLast
        = fileOf init ++ (Line.weight last.2 ::
            (last.1.map fun s : Nat × ℝ × ℝ => Line.station s.1 s.2.1 s.2.2)) := by
      simp only [fileOf, List.flatMap_append, List.flatMap_cons, List.flatMap_nil, List.append_nil]
      rw [← List.append_assoc, List.dropLast_concat]
    rw [hfile]
    simp only [parse, fileOf, List.foldl_append, hm]
    rw [List.foldl_cons, foldl_stations]
    have : last.1.isEmpty = false := by simpa using (hl last List.mem_cons_self).1
    simp [step, this]

/-- writing records out and reading them again returns the same records -/
theorem write_parse_roundtrip (recs : List (Record ℝ × ℝ)) (h : WellFormed recs) :
    parse (render recs) = recs :=
  parse_blocks_no_trailing_blank recs h

/-- a block without its own weight line inherits the previous weight -/
theorem parse_inherits_weight (r₁ r₂ : Record ℝ) (w : ℝ) (h₁ : r₁ ≠ []) (h₂ : r₂ ≠ []) (hw : w ≠ 0) :
    parse (Line.weight w :: (r₁.map fun s => Line.station s.1 s.2.1 s.2.2) ++ [Line.blank]
            ++ (r₂.map fun s => Line.station s.1 s.2.1 s.2.2) ++ [Line.blank])
      = [(r₁, w), (r₂, w)] := by
  simp only [parse]
  rw [List.append_assoc _ (List.map _ r₂), List.foldl_append, foldl_block _ rfl r₁ w h₁ hw,
    foldl_stations_blank _ rfl r₂ h₂ hw]
  simp

def totalWeight (recs : List (Record ℝ × ℝ)) : ℝ := (recs.map (·.2)).sum

/-- the weights of the bins add up to the weights of all input samples — for any number of
    samples and any bin size -/
theorem bin_mass_conserved (b : ℝ) (recs : List (Record ℝ × ℝ)) :
    totalWeight (bin b recs) = totalWeight recs := by
  rw [totalWeight, bin_eq_binAux, binAux_mass, totalWeight]

/-- one original record is kept per bin: the retained records are a sublist of the input records -/
theorem bin_keeps_original_records (b : ℝ) (recs : List (Record ℝ × ℝ)) :
    ((bin b recs).map (·.1)).Sublist (recs.map (·.1)) := by
  rw [bin_eq_binAux]
  exact binAux_sublist b _ recs

/-- only samples whose every station angle differs by less than half the bin size from the
    retained sample are merged: every input sample is a retained one or is close to one -/
theorem bin_merges_only_close (b : ℝ) (recs : List (Record ℝ × ℝ)) (x : Record ℝ × ℝ) (hx : x ∈ recs) :
    ∃ y ∈ bin b recs, y.1 = x.1 ∨ close b y.1 x.1 = true := by
  rw [bin_eq_binAux]
  exact binAux_covers b _ recs x hx

/-- `close` means: every station's take-off and azimuth difference is below half the bin size -/
theorem close_iff (b : ℝ) (r r' : Record ℝ) :
    close b r r' = true ↔ ∀ p ∈ List.zip r r', |p.2.2.2 - p.1.2.2| < b / 2 ∧ |p.2.2.1 - p.1.2.1| < b / 2 := by
  simp only [close, List.all_eq_true, Bool.and_eq_true, flt_ltb, flt_abs, flt_c, decide_eq_true_eq,
    Nat.cast_ofNat]

/-- with a zero bin size nothing is merged -/
theorem bin_zero_is_identity (recs : List (Record ℝ × ℝ)) : bin 0 recs = recs := by
  rw [bin_eq_binAux, if_pos rfl, binAux_zero]

/-- no two retained samples could have been merged with each other by the rule: a later retained
    record is never close to an earlier retained one -/
theorem bin_retained_pairwise_far (b : ℝ) (hb : b ≠ 0) (recs : List (Record ℝ × ℝ)) :
    (bin b recs).Pairwise (fun y z => close b y.1 z.1 = false) := by
  rw [bin_eq_binAux, if_neg hb]
  exact binAux_pairwise b _ recs (Nat.le_refl _)

/-- sub-sampling returns records of the file, each with its own weight -/
theorem subsample_subset (recs : List (Record ℝ × ℝ)) (idx : List Nat) :
    ∀ p ∈ subsample recs idx, p ∈ recs := by
  intro p hp
  obtain ⟨i, _, hi⟩ := List.mem_filterMap.mp hp
  exact List.mem_of_getElem? hi

end MTfitVerif.C18
