import MTfitVerif.Real.Inst
import MTfitVerif.Real.MatricesLemmas
/-
  C11 — the observation matrices pair each station's coefficients with that station's
  own measurement and uncertainty, matching location-sample records by station name whatever
  their order.
-/
namespace MTfitVerif.C11
open Matrices StationAngles

/-- `sorted(set(·))` yields a strictly increasing list … -/
theorem sortDedup_sorted (l : List Nat) : (sortDedup l).Pairwise (· < ·) := by
  induction l with
  | nil => simp [sortDedup]
  | cons x xs ih => exact pairwise_insertSorted ih

/-- … with the same members … -/
theorem mem_sortDedup (l : List Nat) (x : Nat) : x ∈ sortDedup l ↔ x ∈ l := by
  induction l with
  | nil => simp [sortDedup]
  | cons y ys ih => simp [sortDedup, mem_insertSorted, ih]

/-- … and therefore depends only on the set of names, not on their order or multiplicity -/
theorem sortDedup_perm_invariant {l₁ l₂ : List Nat} (h : ∀ x, x ∈ l₁ ↔ x ∈ l₂) :
    sortDedup l₁ = sortDedup l₂ :=
  (sortDedup_sorted _).eq_of_mem_iff (sortDedup_sorted _)
    (fun x => by rw [mem_sortDedup, mem_sortDedup, h])

/-- the selected stations are exactly the names present both in the data and in the location
    records, in sorted order -/
theorem mem_selected (loc : Loc ℝ) (rows : List (Row ℝ)) (n : Nat) :
    n ∈ selected loc rows ↔ n ∈ loc.names ∧ ∃ r ∈ rows, r.name = n := by
  unfold selected
  rw [mem_sortDedup, List.mem_filter, List.mem_map, List.contains_iff_mem]
  exact And.comm

/-- with location samples: every output station is a selected name; its measurement, error and
    mispick probability are those of the data row carrying that name, and its coefficients for
    sample `i` come from the location record of that same name -/
theorem stationsOf_aligned (loc : Loc ℝ) (rows : List (Row ℝ)) (r : Row ℝ) (angs : List (ℝ × ℝ))
    (h : (r, angs) ∈ stationsOf (some loc) rows) :
    r ∈ rows ∧ r.name ∈ loc.names ∧ findRow rows r.name = some r ∧ angs = locAngles loc r.name := by
  simp only [stationsOf, List.mem_filterMap, Option.map_eq_some_iff] at h
  obtain ⟨n, hn, r', hr', he⟩ := h
  obtain ⟨rfl, rfl⟩ := Prod.mk.inj he
  obtain ⟨hmem, hname⟩ := findRow_some hr'
  subst hname
  exact ⟨hmem, ((mem_selected loc rows _).mp hn).1, hr', rfl⟩

/-- one output station per selected name, in sorted name order -/
theorem stationsOf_names (loc : Loc ℝ) (rows : List (Row ℝ)) :
    (stationsOf (some loc) rows).map (·.1.name) = selected loc rows := by
  rw [stationsOf, List.map_filterMap, List.filterMap_congr (g := some), List.filterMap_some]
  intro n hn
  obtain ⟨r, hr⟩ := exists_findRow_eq_some ((mem_selected loc rows n).mp hn).2
  rw [hr, Option.map_some, Option.map_some, (findRow_some hr).2]

/-- the order of the stations in the data does not matter when location samples are used
    (distinct names) -/
theorem stationsOf_perm_data (loc : Loc ℝ) {rows rows' : List (Row ℝ)} (hp : rows.Perm rows')
    (hnd : (rows.map (·.name)).Nodup) :
    stationsOf (some loc) rows' = stationsOf (some loc) rows := by
  have hsel : selected loc rows' = selected loc rows :=
    sortDedup_perm_invariant fun x => ((hp.symm.map _).filter _).mem_iff
  simp only [stationsOf]
  rw [hsel]
  apply List.filterMap_congr
  intro n _
  rw [findRow_perm hp hnd n]

/-- consistently permuting (or extending with other stations) the location records does not
    change the angles looked up for a name -/
theorem locAngles_of_lookup (loc loc' : Loc ℝ) (n : Nat)
    (hlen : loc.samples.length = loc'.samples.length)
    (h : ∀ i, (loc.samples.getD i []).getD (idxOf loc.names n) (0, 0)
            = (loc'.samples.getD i []).getD (idxOf loc'.names n) (0, 0)) :
    locAngles loc n = locAngles loc' n := by
  unfold locAngles
  apply List.ext_getElem
  · simpa using hlen
  · intro i h₁ h₂
    simp only [List.length_map] at h₁ h₂
    have := h i
    simp only [List.getD_eq_getElem?_getD, List.getElem?_eq_getElem h₁, List.getElem?_eq_getElem h₂,
      Option.getD_some] at this
    simpa only [flt_ofNat, CharP.cast_eq_zero, List.getD_eq_getElem?_getD, List.getElem_map] using this

/-- without location samples every data row appears once, in data order, with its own angles -/
theorem stationsOf_none (rows : List (Row ℝ)) :
    stationsOf none rows = rows.map fun r => (r, [(r.az, r.toa)]) := by
  rfl

/-- polarity rows: the sign of the observed polarity is folded into the coefficients; error and
    mispick probability are the row's own -/
theorem polarityRows_spec (ph : Phase) (loc : Option (Loc ℝ)) (rows : List (Row ℝ)) :
    polarityRows ph loc rows = (stationsOf loc rows).map fun p =>
      { coeffs := p.2.map fun a => (coeffsDeg ph a.1 a.2).map (· * p.1.measured.headD 0),
        sigma := p.1.error.headD 0, w := p.1.ipp.getD 0 } := by
  unfold polarityRows
  apply List.map_congr_left
  rintro ⟨r, angs⟩ _
  simp [scale]

/-- amplitude-ratio rows: the observed ratio is `|numerator/denominator|` and the fractional
    errors are `error/|amplitude|` of the same station -/
theorem ratioRows_spec (p1 p2 : Phase) (loc : Option (Loc ℝ)) (rows : List (Row ℝ))
    (s : RatioPdf.ArStation ℝ) (hs : s ∈ ratioRows p1 p2 loc rows) :
    ∃ p ∈ stationsOf loc rows,
      s.ratio = |p.1.measured.getD 0 0 / p.1.measured.getD 1 0| ∧
      s.px = p.1.error.getD 0 0 / |p.1.measured.getD 0 0| ∧
      s.py = p.1.error.getD 1 0 / |p.1.measured.getD 1 0| ∧
      s.cx = p.2.map (fun a => coeffsDeg p1 a.1 a.2) ∧ s.cy = p.2.map (fun a => coeffsDeg p2 a.1 a.2) := by
  unfold ratioRows at hs
  obtain ⟨p, hp, rfl⟩ := List.mem_map.mp hs
  refine ⟨p, hp, ?_⟩
  obtain ⟨r, angs⟩ := p
  simp only [flt_ofNat, CharP.cast_eq_zero, List.getD_eq_getElem?_getD, flt_abs, and_self]

theorem sortByKey_perm (l : List (DataType ℝ)) : (sortByKey l).Perm l := by
  induction l with
  | nil => simp [sortByKey]
  | cons x xs ih => exact (insertKey_perm x _).trans (List.Perm.cons x ih)

/-- types are processed in sorted key order -/
theorem sortByKey_sorted (l : List (DataType ℝ)) : (sortByKey l).Pairwise (fun a b => ¬ b.key < a.key) := by
  induction l with
  | nil => simp [sortByKey]
  | cons x xs ih => exact pairwise_insertKey x ih

/-- key classification and phase extraction on the documented key names.

    The three `ratioPhases` examples are stated for any key `k` whose underscore-stripped form
    `k.replace "_" ""` is the given literal, not for the literal key itself: `String.replace` runs
    the iterator-based substring searcher (compiled with an opaque well-founded fixpoint), which
    neither the kernel nor `simp` can evaluate on a literal and for which core has no specification
    lemmas; everything downstream of that call (`lower`, `split('amplituderatio')`, the two
    `rstrip`s and `split('/')`) is proved here.  The `replace` step itself is exercised by the
    executable correspondence check. -/
theorem key_examples :
    isPolarityKey "PPolarity" = true ∧ isPolarityKey "PPolarityProbability" = false ∧
    isPolarityProbKey "PPolarityProbability" = true ∧ isAmpRatioKey "P/SHRMSAmplitudeRatio" = true ∧
    isAmpRatioKey "P/SVQ_Amplitude_Ratio" = true ∧ isPolarityKey "P/SHAmplitudeRatio" = false ∧
    polarityMode "SHPolarity" = "sh" ∧
    (∀ k : String, k.replace "_" "" = "P/SHRMSAmplitudeRatio" → ratioPhases k = ("p", "sh")) ∧
    (∀ k : String, k.replace "_" "" = "P/SVQAmplitudeRatio" → ratioPhases k = ("p", "sv")) ∧
    (∀ k : String, k.replace "_" "" = "SHQ/SVQAmplitudeRatio" → ratioPhases k = ("shq", "sv")) := by
  refine ⟨?_, ?_, ?_, ?_, ?_, ?_, ?_, ?_, ?_, ?_⟩
  · rw [isPolarityKey, Bool.and_eq_true, Bool.not_eq_true']
    exact ⟨containsSub_toLower_ofList 64 true (by decide +kernel),
      containsSub_toLower_ofList 64 false (by decide +kernel)⟩
  · rw [isPolarityKey, Bool.and_eq_false_iff, Bool.not_eq_false']
    exact Or.inr (containsSub_toLower_ofList 64 true (by decide +kernel))
  · rw [isPolarityProbKey, Bool.and_eq_true]
    exact ⟨containsSub_toLower_ofList 64 true (by decide +kernel),
      containsSub_toLower_ofList 64 true (by decide +kernel)⟩
  · rw [isAmpRatioKey, Bool.or_eq_true]
    exact Or.inl (containsSub_toLower_ofList 64 true (by decide +kernel))
  · rw [isAmpRatioKey, Bool.or_eq_true]
    exact Or.inr (containsSub_toLower_ofList 64 true (by decide +kernel))
  · rw [isPolarityKey, Bool.and_eq_false_iff]
    exact Or.inl (containsSub_toLower_ofList 64 false (by decide +kernel))
  · exact polarityMode_ofList 64 (rest := [[]]) (by decide +kernel)
  · exact fun _ h => ratioPhases_ofList 64 h (by decide +kernel)
  · exact fun _ h => ratioPhases_ofList 64 h (by decide +kernel)
  · exact fun _ h => ratioPhases_ofList 64 h (by decide +kernel)

end MTfitVerif.C11
