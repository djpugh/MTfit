import MTfitVerif.Real.PolarityLemmas
/-
  C02 — polarity likelihoods are valid two-outcome probability models.
-/
namespace MTfitVerif.C02
open LogP Polarity Filter Topology

/-- the documented expression -/
theorem polProb_eq (A σ w : ℝ) (hσ : σ ≠ 0) :
    polProb A σ w = (1/2) * (1 + erf (A / (√2 * σ))) * (1 - w) + (1/2) * (1 + erf (-A / (√2 * σ))) * w := by
  unfold polProb; rw [sigmaFix_of_ne hσ, polProbRaw_eq]

/-- `σ = 0` is accepted: it is replaced by `10⁻²⁴`. -/
theorem sigmaFix_pos {σ : ℝ} (hσ : 0 ≤ σ) : 0 < sigmaFix σ := by
  rw [sigmaFix_eq]
  split
  · exact small_pos
  · rename_i h; exact lt_of_le_of_ne hσ (Ne.symm h)

/-- no divisor is ever zero -/
theorem polProb_divisor_ne_zero {σ : ℝ} (hσ : 0 ≤ σ) : √2 * sigmaFix σ ≠ 0 :=
  (sqrt2_mul_pos (sigmaFix_pos hσ)).ne'

theorem polProb_mem_Icc (A σ : ℝ) {w : ℝ} (hw0 : 0 ≤ w) (hw1 : w ≤ 1) :
    0 ≤ polProb A σ w ∧ polProb A σ w ≤ 1 :=
  ⟨(polProbRaw_pos A _ hw0 hw1).le, polProbRaw_le_one A _ hw0 hw1⟩

/-- strictly positive, over ℝ also when the mispick probability is 0 or 1 -/
theorem polProb_pos (A σ : ℝ) {w : ℝ} (hw0 : 0 ≤ w) (hw1 : w ≤ 1) : 0 < polProb A σ w :=
  polProbRaw_pos A _ hw0 hw1

/-- the two possible polarities sum to one -/
theorem polProb_compl (A σ w : ℝ) : polProb A σ w + polProb (-A) σ w = 1 :=
  polProbRaw_compl A _ w

/-- non-decreasing in the amplitude `A` when `w ≤ 1/2` -/
theorem polProb_mono {σ w : ℝ} (hσ : 0 ≤ σ) (hw : w ≤ 1/2) : Monotone (fun A => polProb A σ w) :=
  polProbRaw_mono (sigmaFix_pos hσ) hw

theorem polProb_strictMono {σ w : ℝ} (hσ : 0 ≤ σ) (hw : w < 1/2) : StrictMono (fun A => polProb A σ w) :=
  polProbRaw_strictMono (sigmaFix_pos hσ) hw

theorem polProb_antitone {σ w : ℝ} (hσ : 0 ≤ σ) (hw : 1/2 ≤ w) : Antitone (fun A => polProb A σ w) :=
  polProbRaw_antitone (sigmaFix_pos hσ) hw

theorem polProb_half (A σ : ℝ) : polProb A σ (1/2) = 1/2 :=
  polProbRaw_half A _

/-- hard 0/1 limit: as the uncertainty goes to zero the probability of a correct polarity tends to
    `1 - w`, of a wrong one to `w`, and it is `1/2` on the nodal plane. -/
theorem polProb_tendsto_zero_sigma (A w : ℝ) :
    Tendsto (fun σ : ℝ => polProbRaw A σ w) (𝓝[>] 0)
      (𝓝 (if 0 < A then 1 - w else if A < 0 then w else 1/2)) := by
  simp only [polProbRaw_eq_affine]
  have h := ((((tendsto_erfArg A).const_add 1).const_mul (1/2)).mul_const (1 - 2 * w)).const_add w
  convert h using 2
  split_ifs <;> ring

/-- the value the code uses at `σ = 0` is within `erfc`-distance of the hard limit: it is the
    expression at `σ = 10⁻²⁴` -/
theorem polProb_sigma_zero (A w : ℝ) : polProb A 0 w = polProbRaw A (1e-24) w := by
  unfold polProb; rw [sigmaFix_zero]

/-- the documented step-function mixture -/
theorem polProbP_pos_amp {A : ℝ} (hA : 0 < A) (pp pn w : ℝ) :
    polProbP A pp pn w = pp * (1 - w) + pn * w := by
  rw [polProbP_eq, heav_of_pos hA, heav_of_neg (neg_neg_of_pos hA)]; ring

theorem polProbP_neg_amp {A : ℝ} (hA : A < 0) (pp pn w : ℝ) :
    polProbP A pp pn w = pn * (1 - w) + pp * w := by
  rw [polProbP_eq, heav_of_neg hA, heav_of_pos (neg_pos.mpr hA)]; ring

theorem polProbP_zero_amp (pp pn w : ℝ) : polProbP 0 pp pn w = (pp + pn) / 2 := by
  rw [polProbP_eq, neg_zero, heav_zero]; ring

theorem polProbP_mem_Icc (A : ℝ) {pp pn w : ℝ} (hpp : 0 ≤ pp ∧ pp ≤ 1) (hpn : 0 ≤ pn ∧ pn ≤ 1)
    (hw : 0 ≤ w ∧ w ≤ 1) : 0 ≤ polProbP A pp pn w ∧ polProbP A pp pn w ≤ 1 := by
  rw [polProbP_eq]
  have h1 := heavAvg_mem A hpp hpn
  have h2 := heavAvg_mem A hpn hpp
  exact ⟨mix_nonneg h1.1 h2.1 hw.1 hw.2, mix_le_one h1.2 h2.2 hw.1 hw.2⟩

/-- the two polarity-probability outcomes (amplitude sign flipped) sum to `p₊ + p₋` -/
theorem polProbP_compl (A pp pn w : ℝ) : polProbP A pp pn w + polProbP (-A) pp pn w = pp + pn := by
  rw [polProbP_eq, polProbP_eq, neg_neg]
  linear_combination (pp + pn) * heav_add_neg A

/-- sum of logs over stations = log of the product, for any number of stations -/
theorem lnPolAt_toProb (sts : List (PolStation ℝ)) (k : Nat) (mt : List ℝ)
    (hw : ∀ s ∈ sts, 0 ≤ s.w ∧ s.w ≤ 1) :
    toProb (lnPolAt sts k mt)
      = (sts.map fun s => polProb (dot (s.coeffs.getD k []) mt) s.sigma s.w).prod :=
  toProb_sum_ofProb _ _ fun s hs => (polProb_pos _ _ (hw s hs).1 (hw s hs).2).le

theorem lnPolProbAt_toProb (sts : List (PolProbStation ℝ)) (k : Nat) (mt : List ℝ)
    (h : ∀ s ∈ sts, (0 ≤ s.pp ∧ s.pp ≤ 1) ∧ (0 ≤ s.pn ∧ s.pn ≤ 1) ∧ (0 ≤ s.w ∧ s.w ≤ 1)) :
    toProb (lnPolProbAt sts k mt)
      = (sts.map fun s => polProbP (dot (s.coeffs.getD k []) mt) s.pp s.pn s.w).prod :=
  toProb_sum_ofProb _ _ fun s hs => (polProbP_mem_Icc _ (h s hs).1 (h s hs).2.1 (h s hs).2.2).1

/-- impossible sources get exactly zero probability: the log-likelihood is `-∞` iff some
    station's probability is zero -/
theorem lnPolProbAt_negInf_iff (sts : List (PolProbStation ℝ)) (k : Nat) (mt : List ℝ)
    (h : ∀ s ∈ sts, (0 ≤ s.pp ∧ s.pp ≤ 1) ∧ (0 ≤ s.pn ∧ s.pn ≤ 1) ∧ (0 ≤ s.w ∧ s.w ≤ 1)) :
    lnPolProbAt sts k mt = negInf
      ↔ ∃ s ∈ sts, polProbP (dot (s.coeffs.getD k []) mt) s.pp s.pn s.w = 0 := by
  refine (sum_ofProb_eq_negInf_iff _ _).trans (exists_congr fun s => and_congr_right fun hs => ?_)
  exact LE.le.ge_iff_eq' (polProbP_mem_Icc _ (h s hs).1 (h s hs).2.1 (h s hs).2.2).1

/-- with manual polarities no source is impossible over ℝ (`erf` never reaches ±1) -/
theorem lnPolAt_ne_negInf (sts : List (PolStation ℝ)) (k : Nat) (mt : List ℝ)
    (hw : ∀ s ∈ sts, 0 ≤ s.w ∧ s.w ≤ 1) : lnPolAt sts k mt ≠ negInf := by
  rw [Ne, lnPolAt, sum_ofProb_eq_negInf_iff]
  rintro ⟨s, hs, he⟩
  exact (polProb_pos _ _ (hw s hs).1 (hw s hs).2).not_ge he

end MTfitVerif.C02
