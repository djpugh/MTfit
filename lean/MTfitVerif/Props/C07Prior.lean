import MTfitVerif.Model.Acceptance
import MTfitVerif.Real.Inst
/-
  C07 (open finding `transd-prior-mass-1.1045`) — the shipped sampling prior of the full-tensor model is a
  density times a constant factor different from one.

  `C07.transD_chain_posterior_stationary` shows that the trans-dimensional kernel leaves
  `pD·πD ⊕ (1−pD)·πM` invariant, with `πM = prior × e^L` for whatever prior the sampler evaluates.  The
  share of double-couple entries of a chain is the posterior model probability stated by the property
  only if that prior has total mass one.  Here: the model's `uniformPrior` (checked against the real
  `uniform_prior` by the C05 correspondence on every run) is `priorFactor · priorBase` with
  `priorBase (γ,δ) = 1.5 cos 3γ · Beta((δ+π/2)/π)/π` and `priorFactor = 1.10452194071529 > 1`; so WHENEVER `priorBase` has
  mass one on a region, the coded prior has mass `priorFactor ≠ 1` there, and the full-tensor side of the joint
  target is `priorFactor` times what equal model priors ask for.  (That `priorBase` has mass one is measured on the real
  code by quadrature in `harness/c07.py`: the Beta normaliser is a rounded literal, so it is not an exact
  identity of the reals.)
-/
namespace MTfitVerif.C07
open Acceptance MeasureTheory

/-- the constant factor of the shipped prior -/
noncomputable def priorFactor : ℝ := sci 110452194071529090000 20

/-- the density part of the shipped prior: `1.5 cos 3γ · Beta((δ+π/2)/π; 5.745, 5.745)/π` -/
noncomputable def priorBase (x : Tape ℝ) : ℝ :=
  (sci 15 1 : ℝ) * Real.cos (3 * x.gamma) * (betaPdf ((x.delta + Real.pi / 2) / Real.pi) / Real.pi)

/-- the shipped prior of the full-tensor model is `priorFactor` times the density part, for every source -/
theorem uniformPrior_eq_factor_mul_base (x : Tape ℝ) : uniformPrior false x = priorFactor * priorBase x := by
  simp only [uniformPrior, priorFactor, priorBase, Bool.false_eq_true, if_false, flt_c, flt_pi, flt_cos, Nat.cast_one,
    Nat.cast_ofNat]
  ring

/-- the double-couple model carries prior one -/
theorem uniformPrior_dc (x : Tape ℝ) : uniformPrior true x = 1 := by
  simp [uniformPrior]

theorem factor_gt_one : (1104 : ℝ) / 1000 < priorFactor ∧ priorFactor < 1105 / 1000 := by
  simp only [priorFactor, flt_sci]; norm_num

/-- the factor is not one: it is `1.10452194071529…` -/
theorem factor_ne_one : priorFactor ≠ 1 := by
  have := factor_gt_one.1
  intro h; rw [h] at this; norm_num at this

/-- whenever the density part has mass one on a region (w.r.t. any measure on any parameter space mapped to
    sources), the shipped prior has mass `priorFactor` there -/
theorem coded_prior_mass {Ω : Type*} [MeasurableSpace Ω] (μ : Measure Ω) (S : Set Ω) (src : Ω → Tape ℝ)
    (hmass : ∫ ω in S, priorBase (src ω) ∂μ = 1) :
    ∫ ω in S, uniformPrior false (src ω) ∂μ = priorFactor := by
  simp only [uniformPrior_eq_factor_mul_base]
  rw [integral_const_mul, hmass, mul_one]

/-- … which is not one: the model prior `dc_prior` is not the prior probability of the double-couple model -/
theorem coded_prior_mass_ne_one {Ω : Type*} [MeasurableSpace Ω] (μ : Measure Ω) (S : Set Ω) (src : Ω → Tape ℝ)
    (hmass : ∫ ω in S, priorBase (src ω) ∂μ = 1) :
    ∫ ω in S, uniformPrior false (src ω) ∂μ ≠ 1 := by
  rw [coded_prior_mass μ S src hmass]; exact factor_ne_one

/-- the posterior odds of the invariant measure scale with the factor: for any likelihood `L`, the full-tensor
    evidence under the shipped prior is `priorFactor` times the evidence under the density part -/
theorem coded_evidence_scaled {Ω : Type*} [MeasurableSpace Ω] (μ : Measure Ω) (S : Set Ω) (src : Ω → Tape ℝ)
    (L : Ω → ℝ) :
    ∫ ω in S, uniformPrior false (src ω) * L ω ∂μ = priorFactor * ∫ ω in S, priorBase (src ω) * L ω ∂μ := by
  simp only [uniformPrior_eq_factor_mul_base, mul_assoc]
  rw [integral_const_mul]

end MTfitVerif.C07
