import MTfitVerif.Props.C20Misc
import MTfitVerif.Real.Inst
/-
  C20 over ℝ — the output of the translated `c_ln_normalise` is normalised: `Σ exp(out_i) · dV = 1`.

  Over ℝ the code's `-inf` (`-(1/0)`) is `0`, so the running maximum `lnMax` is `max 0 (max_i ln_p_i)` rather than
  `max_i ln_p_i`; the normalisation identity does not depend on which shift is subtracted and added back, so the statement is
  clean all the same.  (For `c_dkl` / `c_dkl_uniform` the test `-inf < ln_p_i` reads `0 < ln_p_i` over ℝ, which has no
  counterpart in the compiled code; no ℝ statement is made for them.)
-/
namespace MTfitVerif.C20

theorem foldl_add_eq_sum (f : ℝ → ℝ) (l : List ℝ) (a : ℝ) :
    l.foldl (fun s x => s + f x) a = a + (l.map f).sum :=
  foldl_add_eq_add_sum f l a

theorem lnShiftSum_real (l : List ℝ) (m : ℝ) : lnShiftSum l m = (l.map (fun x => Real.exp (x - m))).sum := by
  unfold lnShiftSum
  have h := foldl_add_eq_sum (fun x => Real.exp (x - m)) l 0
  simpa using h

theorem lnShiftSum_pos (l : List ℝ) (m : ℝ) (hne : l ≠ []) : 0 < lnShiftSum l m := by
  rw [lnShiftSum_real]
  exact List.sum_pos _ (List.forall_mem_map.2 fun _ _ => Real.exp_pos _) (mt List.map_eq_nil_iff.1 hne)

/-- over ℝ the output of `c_ln_normalise` on a non-empty list with `0 < dV` integrates to one,
    `Σ_i exp(out_i) · dV = 1`. -/
theorem c_ln_normalise_sum_one (l : List ℝ) (dV : ℝ) (n : Nat) (hn : l.length = n) (hne : l ≠ []) (hdV : 0 < dV) :
    ((Pyx.cprobability.c_ln_normalise l dV n).map (fun x => Real.exp x * dV)).sum = 1 := by
  have hS : 0 < lnShiftSum l (lnMax l) := lnShiftSum_pos l _ hne
  -- each term is `exp (x - m) / S`: the shift `m` cancels and `exp ∘ log` removes the logarithm
  have hterm : ∀ x : ℝ, ((fun x => Real.exp x * dV) ∘ (fun x => x - lnNormaliser l dV)) x =
      Real.exp (x - lnMax l) * (lnShiftSum l (lnMax l))⁻¹ := by
    intro x
    show Real.exp (x - lnNormaliser l dV) * dV = _
    rw [lnNormaliser, flt_log, ← sub_sub_sub_cancel_right x _ (lnMax l), add_sub_cancel_right, Real.exp_sub,
      Real.exp_log (mul_pos hS hdV), div_mul_eq_mul_div, mul_div_mul_right _ _ hdV.ne', div_eq_mul_inv]
  rw [c_ln_normalise_eq l dV n hn, List.map_map, List.map_congr_left (fun x _ => hterm x), List.sum_map_mul_right,
    ← lnShiftSum_real, mul_inv_cancel₀ hS.ne']

end MTfitVerif.C20
