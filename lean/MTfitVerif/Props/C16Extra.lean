import MTfitVerif.Props.C16
/-
  C16 — further property theorems, consequences of the invariant `Inv` (which `run_inv` proves
  for every reachable state): nothing is delivered twice or out of thin air, every submitted
  task is accounted for, and `number_jobs` is the exact count of what is still to come.
-/
namespace MTfitVerif.C16
open JobPool List

theorem run_append (s : State) (es₁ es₂ : List Event) :
    run s (es₁ ++ es₂) = (run s es₁).bind fun s' => run s' es₂ := by
  induction es₁ generalizing s with
  | nil => rfl
  | cons e es ih =>
    simp only [cons_append, run]
    cases step s e with
    | none => rfl
    | some s1 => simpa using ih s1

theorem _root_.MTfitVerif.JobPool.nodup_outstanding_collected {s : State} (h : Inv s) :
    (outstanding s ++ s.collected).Nodup :=
  (nodup_append.mp (exactly_once s h)).1

/-- no result is handed to the caller twice -/
theorem collected_nodup (s : State) (h : Inv s) : s.collected.Nodup :=
  (nodup_append.mp (nodup_outstanding_collected h)).2.1

/-- every result handed to the caller belongs to a task that was submitted -/
theorem collected_submitted (s : State) (h : Inv s) :
    ∀ id ∈ s.collected, id ∈ s.kinds.map (·.1) := by
  intro id hid
  apply h.1.subset
  simp [hid]

/-- a result handed to the caller is no longer outstanding: it cannot be delivered again -/
theorem collected_not_outstanding (s : State) (h : Inv s) :
    ∀ id ∈ s.collected, id ∉ outstanding s :=
  fun id hid hout => (nodup_append.mp (nodup_outstanding_collected h)).2.2 id hout id hid rfl

/-- every submitted task is queued, running, waiting in the result queue, delivered or skipped -/
theorem every_task_accounted (s : State) (h : Inv s) :
    ∀ id ∈ s.kinds.map (·.1), id ∈ outstanding s ∨ id ∈ s.collected ∨ id ∈ s.skipped :=
  fun _ hid => or_assoc.mp ((mem_append.mp (h.1.symm.subset hid)).imp_left mem_append.mp)

/-- the number of submitted tasks is what is outstanding plus what was delivered or skipped -/
theorem submitted_count (s : State) (h : Inv s) :
    s.kinds.length = s.numberJobs + s.collected.length + s.skipped.length := by
  rw [← length_map (f := (·.1)), ← h.1.length_eq, length_append, length_append, h.2.2.1]
  rfl

/-- `number_jobs` is zero exactly when nothing is outstanding -/
theorem numberJobs_zero_iff (s : State) (h : Inv s) :
    s.numberJobs = 0 ↔ outstanding s = [] := by
  rw [h.2.2.1]
  exact length_eq_zero_iff

/-- all of the above hold after every interleaving from a fresh pool -/
theorem reachable_accounting (n : Nat) (es : List Event) (s : State) (hr : run (init n) es = some s) :
    s.collected.Nodup ∧ (∀ id ∈ s.collected, id ∉ outstanding s) ∧
    s.kinds.length = s.numberJobs + s.collected.length + s.skipped.length :=
  have h := run_inv n es s hr
  ⟨collected_nodup s h, collected_not_outstanding s h, submitted_count s h⟩

/-- premises are satisfiable: one task submitted, taken, finished and collected by a two-worker pool -/
example : ∃ s, run (init 2) [.submit 7 .ok, .take 0 7, .finish 0, .collect 7] = some s ∧
    s.collected = [7] ∧ s.numberJobs = 0 := by
  refine ⟨_, rfl, ?_, ?_⟩ <;> rfl

end MTfitVerif.C16
